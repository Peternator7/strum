import StrumModel.Table
import StrumProofs.Lemmas.Lookup
/-
C10 — EnumTable is a total map from enabled variants to values.
Model: StrumModel/Table.lean (`genTable`, `index`, `set`, constructors, `tableAll`, `tableAllOk`), mirroring
enum_table.rs:121-209.  Keys are variant identifiers; the struct's fields are positional slots.
Field names `_<snake>` must be pairwise different for the struct to compile (rustc E0124); no theorem below needs
that: `keyIndex` takes the first slot of a key.
-/
namespace Strum

theorem keyIndex_eq (ks : List Bytes) (k : Bytes) : keyIndex ks k = ks.idxOf? k := by
  induction ks with
  | nil => rfl
  | cons a as ih => rw [keyIndex, List.idxOf?_cons, ih]

theorem keyIndex_some {ks : List Bytes} {k : Bytes} {i : Nat} (h : keyIndex ks k = some i) : ks[i]? = some k := by
  rw [keyIndex_eq, List.idxOf?_eq_some_iff] at h
  obtain ⟨hi, hk, _⟩ := h
  rw [List.getElem?_eq_getElem hi, hk]

theorem keyIndex_of_mem {ks : List Bytes} {k : Bytes} (h : k ∈ ks) : ∃ i, keyIndex ks k = some i ∧ ks[i]? = some k := by
  obtain ⟨i, hi⟩ := Option.isSome_iff_exists.1 (List.isSome_idxOf?.2 h)
  rw [← keyIndex_eq] at hi
  exact ⟨i, hi, keyIndex_some hi⟩

theorem keyIndex_none {ks : List Bytes} {k : Bytes} : keyIndex ks k = none ↔ k ∉ ks := by
  rw [keyIndex_eq, List.idxOf?_eq_none_iff]

theorem set_eq_some (t : TableImpl) {α : Type} (tv tv' : TableVal α) (k : Bytes) (x : α) :
    t.set tv k x = some tv' ↔ ∃ i, keyIndex t.keys k = some i ∧ i < tv.length ∧ tv.set i x = tv' := by
  unfold TableImpl.set
  split <;> simp [*]

/-- **A write to `k` changes slot `k` and no other slot**; a later read returns the value last written. -/
theorem get_set (t : TableImpl) {α : Type} (tv tv' : TableVal α) (k k' : Bytes) (x : α)
    (hs : t.set tv k x = some tv') :
    t.index tv' k' = if k' = k then some x else t.index tv k' := by
  obtain ⟨i, hi, hlt, rfl⟩ := (set_eq_some ..).1 hs
  unfold TableImpl.index
  by_cases hkk : k' = k
  · rw [if_pos hkk, hkk, hi]
    exact List.getElem?_set_self hlt
  · rw [if_neg hkk]
    cases hj : keyIndex t.keys k' with
    | none => rfl
    | some j =>
      -- two keys with one slot are equal
      exact List.getElem?_set_ne fun (e : i = j) => hkk (Option.some.inj ((keyIndex_some hj).symm.trans (e ▸ keyIndex_some hi)))

/-- a write succeeds exactly for enabled variants (the table has one slot per key) -/
theorem set_some_iff (t : TableImpl) {α : Type} (tv : TableVal α) (hl : tv.length = t.keys.length) (k : Bytes) (x : α) :
    (∃ tv', t.set tv k x = some tv' ∧ tv'.length = t.keys.length) ↔ k ∈ t.keys := by
  constructor
  · rintro ⟨tv', h, _⟩
    obtain ⟨i, hi, _⟩ := (set_eq_some ..).1 h
    exact List.mem_of_getElem? (keyIndex_some hi)
  · intro hm
    obtain ⟨i, hi, hg⟩ := keyIndex_of_mem hm
    have hlt := (List.getElem?_eq_some_iff.1 hg).1
    exact ⟨tv.set i x, (set_eq_some ..).2 ⟨i, hi, hl ▸ hlt, rfl⟩, by rw [List.length_set, hl]⟩

/-- **`new(..)` takes the slots in declaration order** -/
theorem new_order (t : TableImpl) {α : Type} (xs : List α) (k : Bytes) (i : Nat) (hi : keyIndex t.keys k = some i) :
    t.index (t.new xs) k = xs[i]? := by
  simp only [TableImpl.index, TableImpl.new, hi]

/-- **`from_closure(f)[k] == f(k)`** -/
theorem from_closure_get (t : TableImpl) {α : Type} (f : Bytes → α) (k : Bytes) (hk : k ∈ t.keys) :
    t.index (t.fromClosure f) k = some (f k) := by
  obtain ⟨i, hi, hg⟩ := keyIndex_of_mem hk
  simp only [TableImpl.index, TableImpl.fromClosure, hi, List.getElem?_map, hg, Option.map_some]

/-- **`filled(x)[k] == x`** -/
theorem filled_get (t : TableImpl) {α : Type} (x : α) (k : Bytes) (hk : k ∈ t.keys) :
    t.index (t.filled x) k = some x :=
  from_closure_get t (fun _ => x) k hk

/-- **`transform(f)[k] == f(k, &old[k])`** -/
theorem transform_get (t : TableImpl) {α β : Type} (tv : TableVal α) (hl : tv.length = t.keys.length)
    (f : Bytes → α → β) (k : Bytes) (hk : k ∈ t.keys) :
    t.index (t.transform tv f) k = (t.index tv k).map (f k) := by
  obtain ⟨i, hi, hg⟩ := keyIndex_of_mem hk
  have hlt : i < tv.length := hl ▸ (List.getElem?_eq_some_iff.1 hg).1
  simp only [TableImpl.index, TableImpl.transform, hi, List.getElem?_map, List.zip, List.getElem?_zipWith, hg,
    List.getElem?_eq_getElem hlt, Option.map_some]

/-- **`all()` is `Some` iff every slot is `Some`**, and then holds the unwrapped values in order -/
theorem all_iff {α : Type} (tv : TableVal (Option α)) :
    (tableAll tv).isSome = true ↔ ∀ o ∈ tv, o.isSome = true := by
  induction tv with
  | nil => simp [tableAll]
  | cons o rest ih =>
    cases o with
    | none => simp [tableAll]
    | some x => simp only [tableAll, Option.isSome_map, ih, List.forall_mem_cons, Option.isSome_some, true_and]

theorem all_values {α : Type} (tv : TableVal (Option α)) (r : TableVal α) (h : tableAll tv = some r) :
    tv = r.map some := by
  induction tv generalizing r with
  | nil =>
    cases h
    rfl
  | cons o rest ih =>
    cases o with
    | none => cases h
    | some x =>
      obtain ⟨r', hr', rfl⟩ := Option.map_eq_some_iff.1 h
      rw [List.map_cons, ← ih r' hr']

/-- **`all_ok()` returns the first `Err` in declaration order**, else `Ok` of all values -/
theorem all_ok_first_err {α ε : Type} (tv : TableVal (Except ε α)) :
    tableAllOk tv =
      match tv.find? (fun r => match r with | .error _ => true | .ok _ => false) with
      | some (.error e) => .error e
      | _ => .ok (tv.filterMap (fun r => match r with | .ok x => some x | .error _ => none)) := by
  induction tv with
  | nil => rfl
  | cons r rest ih =>
    cases r with
    | error e => rfl
    | ok x =>
      rw [tableAllOk, ih, List.find?_cons]
      generalize rest.find? (fun r => match r with | .error _ => true | .ok _ => false) = o
      rcases o with _ | _ | _ <;> rfl

/-- the slots are exactly the enabled variants, in declaration order; data-carrying or empty enums are rejected -/
theorem table_keys (d : EnumDef) (t : TableImpl) (hg : genTable d = .ok t) :
    t.keys = d.enabled.map (·.ident) ∧ t.fields = d.enabled.map tableFieldName ∧
    (∀ v ∈ d.enabled, v.fields = .unit) ∧ d.enabled ≠ [] := by
  unfold genTable at hg
  split at hg
  · cases hg
  · next hnu =>
    split at hg
    · cases hg
    · next hne =>
      cases hg
      refine ⟨rfl, rfl, fun v hv => ?_, fun h => hne (List.isEmpty_iff.2 h)⟩
      exact Decidable.of_not_not fun h => hnu (List.any_eq_true.2 ⟨v, hv, bne_iff_ne.2 h⟩)

/-- **Indexing with a disabled variant panics**: it has no slot -/
theorem disabled_index_panics (d : EnumDef) (t : TableImpl) (hg : genTable d = .ok t)
    (hid : (d.variants.map (·.ident)).Nodup) (v : Variant) (hv : v ∈ d.variants) (hdis : v.disabled = true)
    {α : Type} (tv : TableVal α) : t.index tv v.ident = none ∧ ∀ x, t.set tv v.ident x = none := by
  have hk : keyIndex t.keys v.ident = none := by
    rw [keyIndex_none, (table_keys d t hg).1]
    exact ident_not_enabled d hid hv hdis
  simp only [TableImpl.index, TableImpl.set, hk, implies_true, and_self]

/-! non-vacuity -/
def tblEnum : EnumDef := { variants := [{ ident := [65] }, { ident := [66], disabled := true }, { ident := [67] }] }
example : ∃ t, genTable tblEnum = .ok t ∧ t.keys = [[65], [67]] ∧ t.keys.Nodup := ⟨_, rfl, rfl, by decide⟩

/-! ### every write/read history behaves like a plain function from keys to values -/

inductive TOp (α : Type)
  | set (k : Bytes) (x : α)
  | get (k : Bytes)

/-- run a history on the generated table; `none` = a panic (index with a key that has no slot) -/
def runTable {α : Type} (t : TableImpl) : TableVal α → List (TOp α) → Option (List α)
  | _, [] => some []
  | tv, .set k x :: ops =>
    match t.set tv k x with
    | none => none
    | some tv' => runTable t tv' ops
  | tv, .get k :: ops =>
    match t.index tv k with
    | none => none
    | some x => (runTable t tv ops).map (x :: ·)

/-- the reference map: a function updated pointwise -/
def runSpec {α : Type} : (Bytes → α) → List (TOp α) → List α
  | _, [] => []
  | f, .set k x :: ops => runSpec (fun k' => if k' = k then x else f k') ops
  | f, .get k :: ops => f k :: runSpec f ops

def TOp.key {α : Type} : TOp α → Bytes
  | .set k _ => k
  | .get k => k

/-- **Refinement to a total map**: on histories that only use enabled variants, the table answers every read
    exactly like the reference function, whatever the order and number of writes. -/
theorem table_refines {α : Type} (t : TableImpl) (ops : List (TOp α)) (hk : ∀ op ∈ ops, op.key ∈ t.keys) :
    ∀ (tv : TableVal α) (f : Bytes → α), tv.length = t.keys.length → (∀ k ∈ t.keys, t.index tv k = some (f k)) →
      runTable t tv ops = some (runSpec f ops) := by
  induction ops with
  | nil => intro tv f _ _; rfl
  | cons op rest ih =>
    intro tv f hl hf
    obtain ⟨hkm, hrest⟩ := List.forall_mem_cons.1 hk
    cases op with
    | get k => simp only [runTable, runSpec, hf k hkm, ih hrest tv f hl hf, Option.map_some]
    | set k x =>
      obtain ⟨tv', hs, hl'⟩ := (set_some_iff t tv hl k x).2 hkm
      simp only [runTable, runSpec, hs]
      refine ih hrest tv' _ hl' fun k' hk' => ?_
      rw [get_set t tv tv' k k' x hs]
      split
      · rfl
      · exact hf k' hk'

theorem table_refines_from_closure {α : Type} (t : TableImpl) (f : Bytes → α) (ops : List (TOp α))
    (hk : ∀ op ∈ ops, op.key ∈ t.keys) : runTable t (t.fromClosure f) ops = some (runSpec f ops) :=
  table_refines t ops hk _ f (by simp [TableImpl.fromClosure]) (fun k hkm => from_closure_get t f k hkm)

end Strum
