import StrumModel.Message
import StrumProofs.Lemmas.Lookup
import StrumProofs.Source
/-
C15 — EnumProperty returns the declared value for (variant, key, type), else None.
Model: `getProp` (StrumModel/Message.lean): outer match over enabled variants (plus `_ => None` when a
variant is disabled), inner `match prop { "key" => Some(value), .., _ => None }` per type bucket,
mirroring enum_properties.rs:34-75.
-/
namespace Strum

/-- **The getter of type `T` returns the first declared `(key, T)` entry of that variant, `None` for
    a disabled variant, an unknown key, a key of another variant or a key declared with another type.** -/
theorem get_spec (t : PropTy) (d : EnumDef) (hid : (d.variants.map (·.ident)).Nodup)
    (v : Variant) (hv : v ∈ d.variants) (key : Bytes) :
    getProp t d v.ident key =
      if v.disabled then none
      else ((v.props.filter (fun p => p.2.ty == t)).find? (fun p => p.1 == key)).map (·.2) := by
  unfold getProp
  rw [find_enabled d hid v hv]
  cases v.disabled <;> rfl

/-- the returned value always has the getter's type (`get_str` never yields an integer, ...) -/
theorem get_type (t : PropTy) (d : EnumDef) (k key : Bytes) (x : PropVal) (h : getProp t d k key = some x) :
    x.ty = t := by
  unfold getProp at h
  split at h
  · cases h
  · obtain ⟨p, hp, rfl⟩ := Option.map_eq_some_iff.1 h
    exact eq_of_beq (List.mem_filter.1 (List.mem_of_find?_eq_some hp)).2

/-- **iff**, when a variant does not declare the same key twice with the same type -/
theorem get_iff (t : PropTy) (d : EnumDef) (hid : (d.variants.map (·.ident)).Nodup)
    (v : Variant) (hv : v ∈ d.variants) (key : Bytes) (x : PropVal)
    (hu : ∀ p ∈ v.props, ∀ q ∈ v.props, p.1 = q.1 → p.2.ty = q.2.ty → p = q) :
    getProp t d v.ident key = some x ↔ v.disabled = false ∧ (key, x) ∈ v.props ∧ x.ty = t := by
  rw [get_spec t d hid v hv key]
  cases hd : v.disabled
  · simp only [Bool.false_eq_true, ↓reduceIte, Option.map_eq_some_iff, true_and]
    constructor
    · rintro ⟨p, hp, rfl⟩
      have hm := List.mem_filter.1 (List.mem_of_find?_eq_some hp)
      have hk := List.find?_some hp
      exact ⟨eq_of_beq hk ▸ hm.1, eq_of_beq hm.2⟩
    · rintro ⟨hm, hty⟩
      refine ⟨(key, x), find?_unique (List.mem_filter.2 ⟨hm, beq_iff_eq.2 hty⟩) (beq_self_eq_true key) ?_, rfl⟩
      intro q hq hk
      have hq' := List.mem_filter.1 hq
      exact hu q hq'.1 (key, x) hm (eq_of_beq hk) ((eq_of_beq hq'.2).trans hty.symm)
  · simp

/-- integer values, including negative ones, are returned unchanged -/
theorem int_unchanged (d : EnumDef) (hid : (d.variants.map (·.ident)).Nodup) (v : Variant) (hv : v ∈ d.variants)
    (hen : v.disabled = false) (key : Bytes) (i : Int) (hm : (key, PropVal.int i) ∈ v.props)
    (hu : ∀ p ∈ v.props, ∀ q ∈ v.props, p.1 = q.1 → p.2.ty = q.2.ty → p = q) :
    getProp .int d v.ident key = some (.int i) :=
  (get_iff .int d hid v hv key (.int i) hu).2 ⟨hen, hm, rfl⟩

/-! non-vacuity -/
def propEnum : EnumDef :=
  { variants := [{ ident := [65], props := [([107], .str [118]), ([107], .int (-5)), ([98], .bool true)] },
                 { ident := [66], disabled := true, props := [([107], .str [119])] }] }
example : getProp .int propEnum [65] [107] = some (.int (-5)) := by decide
example : getProp .str propEnum [65] [107] = some (.str [118]) := by decide
example : getProp .str propEnum [66] [107] = none := by decide
example : getProp .bool propEnum [65] [107] = none := by decide

/-- **at source level**: the getter of type `T` on a written variant returns the first `(key, T)` entry among ALL `props(..)`
    groups written on that variant, in source order - whatever stands between the groups, whatever other variants carry -/
theorem source_get (t : PropTy) (s : RawSource) (hid : (s.variants.map (·.ident)).Nodup) (r : RawVariant)
    (hr : r ∈ s.variants) (key : Bytes) :
    getProp t s.declared r.ident key =
      if r.isDisabled then none
      else (((propsOf r.attrs.flatten).filter (fun p => p.2.ty == t)).find? (fun p => p.1 == key)).map (·.2) :=
  get_spec t s.declared (source_nodup s hid) r.declared (source_mem s r hr) key

end Strum
