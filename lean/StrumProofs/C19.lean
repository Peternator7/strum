import StrumModel.Refs
/-
C19 — generated code depends only on ::core and on the configured strum path.

`allowedRefs dv` (StrumModel/Refs.lean) lists every external reference the templates of derive `dv` can
emit; the correspondence checks `references of real expansions ⊆ allowedRefs` for every corpus definition,
and rustc (three build configurations) is the oracle for resolution.  The statements below quantify over
all 15 non-deprecated derives and every listed reference; they are finite tables, checked by evaluation.
-/
namespace Strum

/-- **no_std without alloc**: every reference is `::core::..`, a strum item, a core-prelude name or a
    core macro; in particular no `::std::..`, no `format!`. -/
theorem no_std_ok (dv : Derive) (hd : dv.deprecated = false) : ∀ r ∈ allowedRefs dv, r.noStdOk = true := by
  refine List.all_eq_true.1 ?_
  cases dv <;> first | exact Bool.noConfusion hd | decide

/-- **configured path**: strum items are only ever reached through `#strum_module_path` -/
theorem crate_path_respected (dv : Derive) : ∀ r ∈ allowedRefs dv, r.cratePathOk = true := by
  refine List.all_eq_true.1 ?_
  cases dv <;> decide

/-- **shadowing**: no path starts with a plain `core` / `std` / `alloc` segment -/
theorem shadow_safe (dv : Derive) : ∀ r ∈ allowedRefs dv, r.shadowSafe = true := by
  refine List.all_eq_true.1 ?_
  cases dv <;> decide

/-- the deprecated `ToString` derive is the only one that needs std (it is excluded by the property) -/
theorem deprecated_needs_std : ∃ r ∈ allowedRefs .toString, r.noStdOk = false := by decide

/-- F5 regression witness: the pinned Display template (with `format!`) is not no_std-clean -/
theorem pinned_display_needs_alloc : ∃ r ∈ allowedRefsPinnedDisplay, r.noStdOk = false := by decide

/-- the path through which strum items are reached: `::strum` unless `#[strum(crate = "path")]` is given
    (type_props.rs:167-173) -/
def cratePath (custom : Option String) : String := custom.getD "::strum"

theorem crate_path_default : cratePath none = "::strum" := rfl
theorem crate_path_custom (p : String) : cratePath (some p) = p := rfl

end Strum
