import StrumModel.Overlap
import StrumProofs.Lemmas.Bytes
/-
`accepts` (the declarative "this input is one of the variant's spellings") and the decidable non-overlap test
`noOverlapB`: two variants clash iff some input is accepted by both, so the test is sound and, on pairwise different
candidates, complete for `NoOverlap`.
-/
namespace Strum

theorem accepts_iff {d : EnumDef} {v : Variant} {s : Bytes} :
    accepts d v s = true ↔
      ∃ sp ∈ serializations d.style v, (if d.ciOf v then eqIgnoreAsciiCase s sp else s == sp) = true := by
  rw [accepts, List.any_eq_true]

def NoOverlap (d : EnumDef) : Prop :=
  ∀ s, ∀ v ∈ d.candidates, ∀ w ∈ d.candidates, accepts d v s = true → accepts d w s = true → v = w

theorem accepts_cs {d : EnumDef} {v : Variant} (hcs : d.ciOf v = false) (s : Bytes) :
    accepts d v s = (serializations d.style v).contains s := by
  rw [accepts, hcs, List.contains_eq_any_beq]
  rfl

/-- two spellings clash iff some input matches both, each under its own variant's case rule -/
theorem spellingsClash_iff (c1 : Bool) (s1 : Bytes) (c2 : Bool) (s2 : Bytes) :
    spellingsClash c1 s1 c2 s2 = true ↔
      ∃ s, (if c1 then eqIgnoreAsciiCase s s1 else s == s1) = true ∧
           (if c2 then eqIgnoreAsciiCase s s2 else s == s2) = true := by
  unfold spellingsClash
  cases c1 <;> cases c2 <;> simp
  · exact Bool.eq_iff_iff.2 ⟨eqIgnoreAsciiCase_symm, eqIgnoreAsciiCase_symm⟩
  · exact ⟨fun h => ⟨s1, eqIgnoreAsciiCase_refl s1, h⟩,
      fun ⟨s, h1, h2⟩ => eqIgnoreAsciiCase_trans (eqIgnoreAsciiCase_symm h1) h2⟩

theorem variantsClash_iff (d : EnumDef) (v w : Variant) :
    variantsClash d v w = true ↔ ∃ s, accepts d v s = true ∧ accepts d w s = true := by
  simp only [variantsClash, accepts_iff, List.any_eq_true, spellingsClash_iff]
  constructor
  · rintro ⟨a, ha, b, hb, s, h1, h2⟩
    exact ⟨s, ⟨a, ha, h1⟩, b, hb, h2⟩
  · rintro ⟨s, ⟨a, ha, h1⟩, b, hb, h2⟩
    exact ⟨a, ha, b, hb, s, h1, h2⟩

theorem variantsClash_symm (d : EnumDef) (v w : Variant) : variantsClash d v w = variantsClash d w v :=
  Bool.eq_iff_iff.2 <| by
    rw [variantsClash_iff, variantsClash_iff]
    exact exists_congr fun _ => and_comm

theorem pairwiseNoClash_sound (d : EnumDef) (l : List Variant) (h : pairwiseNoClash d l = true) :
    ∀ s, ∀ v ∈ l, ∀ w ∈ l, accepts d v s = true → accepts d w s = true → v = w := by
  induction l with
  | nil =>
    intro s v hv
    cases hv
  | cons x xs ih =>
    rw [pairwiseNoClash, Bool.and_eq_true, noClashWithAll, List.all_eq_true] at h
    have hx : ∀ w ∈ xs, ∀ s, accepts d x s = true → accepts d w s = true → False := fun w hw s ax aw => by
      have := h.1 w hw
      rw [(variantsClash_iff d x w).2 ⟨s, ax, aw⟩] at this
      cases this
    intro s v hv w hw av aw
    rcases List.mem_cons.1 hv with rfl | hv' <;> rcases List.mem_cons.1 hw with rfl | hw'
    · rfl
    · exact (hx w hw' s av aw).elim
    · exact (hx v hv' s aw av).elim
    · exact ih h.2 s v hv' w hw' av aw

/-- soundness of the decidable domain test used by the harness -/
theorem noOverlapB_sound (d : EnumDef) (h : noOverlapB d = true) : NoOverlap d :=
  pairwiseNoClash_sound d d.candidates h

theorem pairwiseNoClash_complete (d : EnumDef) (l : List Variant) (hnd : l.Nodup)
    (h : ∀ s, ∀ v ∈ l, ∀ w ∈ l, accepts d v s = true → accepts d w s = true → v = w) :
    pairwiseNoClash d l = true := by
  induction l with
  | nil => rfl
  | cons x xs ih =>
    rw [List.nodup_cons] at hnd
    rw [pairwiseNoClash, Bool.and_eq_true, noClashWithAll, List.all_eq_true]
    refine ⟨fun w hw => ?_, ih hnd.2 fun s v hv w hw => h s v (List.mem_cons_of_mem _ hv) w (List.mem_cons_of_mem _ hw)⟩
    -- a clash of `x` with a later `w` would make them equal, but `x` does not occur again
    rw [Bool.not_eq_true', ← Bool.not_eq_true, variantsClash_iff]
    rintro ⟨s, h1, h2⟩
    exact hnd.1 (h s x List.mem_cons_self w (List.mem_cons_of_mem _ hw) h1 h2 ▸ hw)

/-- the decidable test is exact on enums whose candidate variants are pairwise different
    (rustc rejects duplicate variant names) -/
theorem noOverlapB_iff (d : EnumDef) (hnd : d.candidates.Nodup) : noOverlapB d = true ↔ NoOverlap d :=
  ⟨noOverlapB_sound d, pairwiseNoClash_complete d d.candidates hnd⟩

/-- a variant accepts each of its own spellings (exactly, or by reflexivity of ASCII folding) -/
theorem accepts_own_spelling (d : EnumDef) (v : Variant) (sp : Bytes)
    (h : sp ∈ serializations d.style v) : accepts d v sp = true := by
  refine accepts_iff.2 ⟨sp, h, ?_⟩
  split
  · exact eqIgnoreAsciiCase_refl sp
  · exact beq_self_eq_true sp

end Strum
