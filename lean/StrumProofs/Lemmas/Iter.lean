import StrumModel.Iter
/-
Refinement of the (idx, back_idx) iterator machine to a plain list of remaining items; at the end, when
`variantArray` succeeds and when it fails.
-/
namespace Strum

theorem W_eq : W = 18446744073709551616 := by decide

def IterInv (N : Nat) (s : IterState) : Prop := s.idx ≤ N ∧ s.back ≤ N

/-- the remaining items: indices `idx, idx+1, .., N - back - 1` (empty when the cursors have met or crossed) -/
def iterAbs (N : Nat) (s : IterState) : List Nat := List.range' s.idx (N - s.idx - s.back)

/-! ### the specification: a double-ended queue that is never refilled -/

def specNth (l : List Nat) (n : Nat) : List Nat × Option Nat :=
  if n < l.length then (l.drop (n + 1), l[n]?) else ([], none)

def specNext (l : List Nat) : List Nat × Option Nat := (l.tail, l.head?)

def specNextBack (l : List Nat) : List Nat × Option Nat := (l.dropLast, l.getLast?)

def specNthBack (l : List Nat) (n : Nat) : List Nat × Option Nat :=
  if n < l.length then (l.take (l.length - n - 1), l[l.length - n - 1]?) else ([], none)

theorem specNext_eq_nth0 (l : List Nat) : specNext l = specNth l 0 := by
  cases l <;> rfl

theorem specNth_length (l : List Nat) (n : Nat) : (specNth l n).1.length = l.length - (n + 1) := by
  rw [specNth]
  split
  · exact List.length_drop
  · next hn => exact (Nat.sub_eq_zero_of_le (Nat.le_succ_of_le (Nat.not_lt.1 hn))).symm

theorem specNthBack_zero (l : List Nat) : specNthBack l 0 = specNextBack l := by
  rw [specNextBack, List.dropLast_eq_take, List.getLast?_eq_getElem?]
  cases l <;> rfl

/-- `specNthBack` unrolls the way core's default `nth_back` does -/
theorem specNthBack_succ (l : List Nat) (n : Nat) :
    specNthBack l (n + 1) =
      match specNextBack l with
      | (l', none) => (l', none)
      | (l', some _) => specNthBack l' n := by
  rcases l.eq_nil_or_concat with rfl | ⟨l', a, rfl⟩
  · rfl
  · simp only [specNthBack, specNextBack, List.concat_eq_append, List.dropLast_concat, List.getLast?_concat,
      List.length_append, List.length_singleton, Nat.add_lt_add_iff_right, Nat.add_sub_add_right]
    split
    · next h =>
      rw [List.take_append_of_le_length (Nat.le_trans (Nat.sub_le _ _) (Nat.sub_le _ _)),
        List.getElem?_append_left (i := l'.length - n - 1) (Nat.sub_lt_of_pos_le (Nat.succ_pos n) h)]
    · rfl

/-! ### `usize` arithmetic that stays in range is exact -/

theorem addU_of_lt (m : Mode) {a b : Nat} (h : a + b < W) : addU m a b = some (a + b) := if_pos h

theorem subU_of_le (m : Mode) {a b : Nat} (h : b ≤ a) : subU m a b = some (a - b) := if_pos h

theorem satAdd_of_lt {a b : Nat} (h : a + b < W) : satAdd a b = a + b := if_pos h

theorem satAdd_eq_min (a b : Nat) : satAdd a b = min (a + b) (W - 1) := by
  unfold satAdd
  split
  · next h => exact (Nat.min_eq_left (Nat.le_sub_one_of_lt h)).symm
  · next h => exact (Nat.min_eq_right (Nat.le_trans (Nat.sub_le W 1) (Nat.not_lt.1 h))).symm

theorem iterInv_init (N : Nat) : IterInv N iterInit := ⟨Nat.zero_le _, Nat.zero_le _⟩

theorem iterAbs_init (N : Nat) : iterAbs N iterInit = List.range N :=
  (List.range_eq_range' ..).symm

theorem iterAbs_length (N : Nat) (s : IterState) : (iterAbs N s).length = N - s.idx - s.back :=
  List.length_range'

theorem iterAbs_eq_nil {N : Nat} {s : IterState} (h : N ≤ s.idx + s.back) : iterAbs N s = [] :=
  List.range'_eq_nil_iff.2 (by rw [Nat.sub_sub, Nat.sub_eq_zero_of_le h])

theorem iterAbs_getElem? {N : Nat} {s : IterState} {n : Nat} (h : n < N - s.idx - s.back) :
    (iterAbs N s)[n]? = some (s.idx + n) := by
  rw [iterAbs, List.getElem?_range' h, Nat.one_mul]

theorem iterAbs_advance (N : Nat) (s : IterState) (k : Nat) :
    iterAbs N ⟨s.idx + k, s.back⟩ = (iterAbs N s).drop k := by
  rw [iterAbs, iterAbs, List.drop_range', Nat.mul_one, Nat.sub_add_eq, Nat.sub_right_comm _ k]

/-- the last item of a non-empty window is the one the back cursor yields next -/
theorem iterAbs_concat {N : Nat} {s : IterState} (h : s.idx + (s.back + 1) ≤ N) :
    iterAbs N s = iterAbs N ⟨s.idx, s.back + 1⟩ ++ [N - (s.back + 1)] := by
  obtain ⟨hlen, hlast⟩ : N - s.idx - s.back = N - s.idx - (s.back + 1) + 1 ∧
      N - (s.back + 1) = s.idx + (N - s.idx - (s.back + 1)) := by omega
  rw [iterAbs, iterAbs, hlen, hlast, List.range'_1_concat]

/-- `nth` alone needs less than the other operations: `N + 1 < W`, since its one comparison against `N` sees through
    saturation at `W - 1`, and of the invariant only the back cursor's half -/
theorem nth_refines_of_succ_lt (N : Nat) (hN : N + 1 < W) (s : IterState) (h2 : s.back ≤ N) (n : Nat) :
    IterInv N (nth N s n).1 ∧ specNth (iterAbs N s) n = (iterAbs N (nth N s n).1, (nth N s n).2) := by
  simp only [nth, specNth, iterAbs_length]
  by_cases hn : n < N - s.idx - s.back
  · -- inside the window nothing saturates: every sum is at most `N`
    have hc : s.idx + n + 1 + s.back ≤ N := by omega
    have hb : s.idx + n + 1 ≤ N := Nat.le_trans (Nat.le_add_right _ _) hc
    have hW := Nat.lt_of_succ_lt hN
    rw [satAdd_of_lt (Nat.lt_of_le_of_lt (Nat.le_of_succ_le hb) hW), satAdd_of_lt (Nat.lt_of_le_of_lt hb hW),
      satAdd_of_lt (Nat.lt_of_le_of_lt hc hW), if_neg (Nat.not_lt.2 hc), if_pos hn, getIdx, Nat.add_sub_cancel,
      if_pos (Nat.lt_of_succ_le hb), Nat.add_assoc, iterAbs_advance, iterAbs_getElem? hn]
    exact ⟨⟨Nat.add_assoc .. ▸ hb, h2⟩, rfl⟩
  · -- at or past the end, saturated or not: freeze idx at N
    have hM : N < W - 1 := Nat.lt_sub_of_add_lt hN
    have hlt : N < satAdd (satAdd (satAdd s.idx n) 1) s.back := by
      simp only [satAdd_eq_min]
      -- as an atom, `W - 1` costs omega no case split
      generalize W - 1 = M at hM ⊢
      omega
    rw [if_pos hlt, if_neg hn]
    exact ⟨⟨Nat.le_refl N, h2⟩, by rw [iterAbs_eq_nil (Nat.le_add_right N _)]⟩

/-- **`nth` refines the list spec for every `n`** (also `n ≥ 2^64 - N`, where the pinned code overflowed),
    keeps the invariant, and cannot panic (it is total in the model: saturating arithmetic). -/
theorem nth_refines (N : Nat) (hN : 2 * N + 1 < W) (s : IterState) (h : IterInv N s) (n : Nat) :
    IterInv N (nth N s n).1 ∧ specNth (iterAbs N s) n = (iterAbs N (nth N s n).1, (nth N s n).2) :=
  nth_refines_of_succ_lt N (Nat.lt_of_le_of_lt (Nat.succ_le_succ (Nat.le_mul_of_pos_left N Nat.two_pos)) hN) s h.2 n

theorem next_refines (N : Nat) (hN : 2 * N + 1 < W) (s : IterState) (h : IterInv N s) :
    IterInv N (next N s).1 ∧ specNext (iterAbs N s) = (iterAbs N (next N s).1, (next N s).2) := by
  rw [specNext_eq_nth0]
  exact nth_refines N hN s h 0

/-- **`next_back` refines the list spec and never overflows**, in debug and in release builds. -/
theorem nextBack_refines (m : Mode) (N : Nat) (hN : 2 * N + 1 < W) (s : IterState) (h : IterInv N s) :
    ∃ s' o, nextBack m N s = some (s', o) ∧ IterInv N s' ∧ specNextBack (iterAbs N s) = (iterAbs N s', o) := by
  obtain ⟨h1, h2⟩ := h
  have ht : s.idx + (s.back + 1) < W := by omega
  simp only [nextBack, addU_of_lt m (Nat.lt_of_le_of_lt (Nat.le_add_left _ _) ht), addU_of_lt m ht]
  by_cases hover : N < s.idx + (s.back + 1)
  · rw [if_pos hover]
    refine ⟨_, _, rfl, ⟨h1, Nat.le_refl N⟩, ?_⟩
    rw [iterAbs_eq_nil (Nat.le_of_lt_succ hover), iterAbs_eq_nil (Nat.le_add_left N _)]
    rfl
  · have hle := Nat.not_lt.1 hover
    have hb : s.back + 1 ≤ N := Nat.le_trans (Nat.le_add_left _ _) hle
    simp only [if_neg hover, subU_of_le m hb, getIdx]
    rw [if_pos (Nat.sub_lt_of_pos_le (Nat.succ_pos _) hb)]
    refine ⟨_, _, rfl, ⟨h1, hb⟩, ?_⟩
    rw [specNextBack, iterAbs_concat hle, List.dropLast_concat, List.getLast?_concat]

/-- **`len()` / `size_hint()` are exact and never overflow.** -/
theorem sizeHint_refines (m : Mode) (N : Nat) (hN : 2 * N + 1 < W) (s : IterState) (h : IterInv N s) :
    sizeHint m N s = some (iterAbs N s).length := by
  obtain ⟨h1, h2⟩ := h
  simp only [sizeHint, addU_of_lt m (show s.idx + s.back < W by omega), subU_of_le m h1, iterAbs_length]
  split
  · next hge => rw [Nat.sub_sub, Nat.sub_eq_zero_of_le hge]
  · next hlt => exact subU_of_le m (Nat.le_sub_of_add_le' (Nat.le_of_lt (Nat.not_le.1 hlt)))

/-- **`nth_back(n)` (core's default body: `n` × `next_back` with early exit, then `next_back`)
    refines the list spec for every `n` and never overflows.** -/
theorem nthBack_refines (m : Mode) (N : Nat) (hN : 2 * N + 1 < W) (n : Nat) (s : IterState) (h : IterInv N s) :
    ∃ s' o, nthBack m N n s = some (s', o) ∧ IterInv N s' ∧ specNthBack (iterAbs N s) n = (iterAbs N s', o) := by
  induction n generalizing s with
  | zero =>
    rw [specNthBack_zero]
    exact nextBack_refines m N hN s h
  | succ k ih =>
    obtain ⟨s1, o1, e1, i1, r1⟩ := nextBack_refines m N hN s h
    rw [nthBack, e1, specNthBack_succ, r1]
    cases o1 with
    | none => exact ⟨s1, none, rfl, i1, rfl⟩
    | some x => exact ih s1 i1

def specStep (ls : List (List Nat)) (op : IterOp) : List (List Nat) × IterOut :=
  match op with
  | .next i =>
    match ls[i]? with
    | none => (ls, .item none)
    | some l => (ls.set i (specNext l).1, .item (specNext l).2)
  | .nth i n =>
    match ls[i]? with
    | none => (ls, .item none)
    | some l => (ls.set i (specNth l n).1, .item (specNth l n).2)
  | .nextBack i =>
    match ls[i]? with
    | none => (ls, .item none)
    | some l => (ls.set i (specNextBack l).1, .item (specNextBack l).2)
  | .nthBack i n =>
    match ls[i]? with
    | none => (ls, .item none)
    | some l => (ls.set i (specNthBack l n).1, .item (specNthBack l n).2)
  | .len i =>
    match ls[i]? with
    | none => (ls, .len 0)
    | some l => (ls, .len l.length)
  | .clone i =>
    match ls[i]? with
    | none => (ls, .cloned)
    | some l => (ls ++ [l], .cloned)

def specRun : List (List Nat) → List IterOp → List IterOut
  | _, [] => []
  | ls, op :: ops => (specStep ls op).2 :: specRun (specStep ls op).1 ops

def AllInv (N : Nat) (slots : List IterState) : Prop := ∀ s ∈ slots, IterInv N s

theorem allInv_set (N : Nat) (slots : List IterState) (i : Nat) (s : IterState)
    (h : AllInv N slots) (hs : IterInv N s) : AllInv N (slots.set i s) :=
  fun x hx => (List.mem_or_eq_of_mem_set hx).elim (h x) fun e => e ▸ hs

/-- An operation `f` on one iterator that refines `g` refines it on slot `i` of a family; the two matches are
    the bodies of `iterStep` and `specStep` for `next`, `nth`, `nextBack` and `nthBack`. -/
theorem slot_refines {N : Nat} {slots : List IterState} (h : AllInv N slots) (i : Nat)
    {f : IterState → Option (IterState × Option Nat)} {g : List Nat → List Nat × Option Nat}
    (hf : ∀ s, IterInv N s → ∃ s' o, f s = some (s', o) ∧ IterInv N s' ∧ g (iterAbs N s) = (iterAbs N s', o)) :
    ∃ slots' o,
      (match slots[i]? with
        | none => some (slots, IterOut.item none)
        | some s => (f s).map fun r => (setSlot slots i r.1, IterOut.item r.2)) = some (slots', o) ∧
      AllInv N slots' ∧
      (match (slots.map (iterAbs N))[i]? with
        | none => (slots.map (iterAbs N), IterOut.item none)
        | some l => ((slots.map (iterAbs N)).set i (g l).1, IterOut.item (g l).2)) =
        (slots'.map (iterAbs N), o) := by
  rw [List.getElem?_map]
  cases hs : slots[i]? with
  | none => exact ⟨_, _, rfl, h, rfl⟩
  | some s =>
    obtain ⟨s', o, e, hi, r⟩ := hf s (h s (List.mem_of_getElem? hs))
    refine ⟨_, _, congrArg (Option.map _) e, allInv_set N slots i s' h hi, ?_⟩
    simp only [Option.map_some, r, setSlot, List.map_set]

theorem step_refines (m : Mode) (N : Nat) (hN : 2 * N + 1 < W) (slots : List IterState)
    (h : AllInv N slots) (op : IterOp) :
    ∃ slots' o, iterStep m N slots op = some (slots', o) ∧ AllInv N slots' ∧
      specStep (slots.map (iterAbs N)) op = (slots'.map (iterAbs N), o) := by
  cases op with
  | next i =>
    exact slot_refines h i (f := fun s => some (next N s)) fun s hs =>
      ⟨_, _, Prod.eta _ ▸ rfl, next_refines N hN s hs⟩
  | nth i n =>
    exact slot_refines h i (f := fun s => some (nth N s n)) fun s hs =>
      ⟨_, _, Prod.eta _ ▸ rfl, nth_refines N hN s hs n⟩
  | nextBack i => exact slot_refines h i (nextBack_refines m N hN)
  | nthBack i n => exact slot_refines h i (nthBack_refines m N hN n)
  | len i =>
    simp only [iterStep, specStep, List.getElem?_map]
    cases hs : slots[i]? with
    | none => exact ⟨_, _, rfl, h, rfl⟩
    | some s =>
      have hlen := sizeHint_refines m N hN s (h s (List.mem_of_getElem? hs))
      exact ⟨_, _, congrArg (Option.map _) hlen, h, rfl⟩
  | clone i =>
    simp only [iterStep, specStep, List.getElem?_map]
    cases hs : slots[i]? with
    | none => exact ⟨_, _, rfl, h, rfl⟩
    | some s =>
      have hi := List.forall_mem_singleton.2 (h s (List.mem_of_getElem? hs))
      exact ⟨_, _, rfl, List.forall_mem_append.2 ⟨h, hi⟩, by rw [List.map_append]; rfl⟩

/-- **Every history, every depth**: the machine never panics and produces exactly the outputs of the
    list specification. -/
theorem run_refines (m : Mode) (N : Nat) (hN : 2 * N + 1 < W) (ops : List IterOp) (slots : List IterState)
    (h : AllInv N slots) :
    iterRun m N slots ops = some (specRun (slots.map (iterAbs N)) ops) := by
  induction ops generalizing slots with
  | nil => rfl
  | cons op ops ih =>
    obtain ⟨slots', o, e, hi, r⟩ := step_refines m N hN slots h op
    simp only [iterRun, e, specRun, r, ih slots' hi, Option.map_some]

theorem collectFuel_eq_take (N : Nat) (hN : 2 * N + 1 < W) (f : Nat) (s : IterState) (h : IterInv N s) :
    collectFuel N f s = (iterAbs N s).take f := by
  induction f generalizing s with
  | zero => rfl
  | succ k ih =>
    obtain ⟨i1, r1⟩ := next_refines N hN s h
    obtain ⟨ht, ho⟩ := Prod.mk.inj r1
    have ih' := ih _ i1
    rw [← ht] at ih'
    rw [collectFuel, ← Prod.eta (next N s), ← ho]
    generalize iterAbs N s = l at ih' ⊢
    cases l with
    | nil => rfl
    | cons x xs => exact congrArg (x :: ·) ih'

theorem collectFuel_eq (N : Nat) (hN : 2 * N + 1 < W) (f : Nat) (s : IterState) (h : IterInv N s)
    (hf : (iterAbs N s).length ≤ f) : collectFuel N f s = iterAbs N s := by
  rw [collectFuel_eq_take N hN f s h, List.take_of_length_le hf]

theorem collectBackFuel_eq_take (m : Mode) (N : Nat) (hN : 2 * N + 1 < W) (f : Nat) (s : IterState)
    (h : IterInv N s) : collectBackFuel m N f s = (iterAbs N s).reverse.take f := by
  induction f generalizing s with
  | zero => rfl
  | succ k ih =>
    obtain ⟨s', o, e1, i1, r1⟩ := nextBack_refines m N hN s h
    obtain ⟨ht, ho⟩ := Prod.mk.inj r1
    have ih' := ih s' i1
    rw [← ht] at ih'
    rw [collectBackFuel, e1, ← ho]
    generalize iterAbs N s = l at ih' ⊢
    rcases l.eq_nil_or_concat with rfl | ⟨l', a, rfl⟩
    · rfl
    · rw [List.concat_eq_append, List.dropLast_concat] at ih'
      rw [List.concat_eq_append, List.getLast?_concat, List.reverse_concat]
      exact congrArg (a :: ·) ih'

theorem collectBackFuel_eq (m : Mode) (N : Nat) (hN : 2 * N + 1 < W) (f : Nat) (s : IterState) (h : IterInv N s)
    (hf : (iterAbs N s).length ≤ f) : collectBackFuel m N f s = (iterAbs N s).reverse := by
  rw [collectBackFuel_eq_take m N hN f s h, List.take_of_length_le (by rwa [List.length_reverse])]

theorem variantArray_eq_some_iff {d : EnumDef} {l : List Bytes} :
    variantArray d = some l ↔ (∀ v ∈ d.variants, v.fields = .unit) ∧ l = d.variants.map (·.ident) := by
  rw [eq_comm (a := l)]
  simp only [variantArray, Option.ite_none_right_eq_some, Option.some.injEq, List.all_eq_true, beq_iff_eq]

theorem variantArray_eq_none_iff {d : EnumDef} :
    variantArray d = none ↔ ∃ v ∈ d.variants, v.fields ≠ .unit := by
  simp only [variantArray, ite_eq_right_iff, reduceCtorEq, imp_false, List.all_eq_true, beq_iff_eq,
    Classical.not_forall, exists_prop]

end Strum
