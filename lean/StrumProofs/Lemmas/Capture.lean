import StrumModel.Fmt
/-
The macro's placeholder scanner (`captureFormatStrings`: delete every `{{`, then every `}}`, then scan)
agrees with the format-string grammar

    literal ::= ( "{{" | "}}" | "{" body "}" | char )*        body, char: no braces

on every well-formed literal: it returns exactly the argument names of the placeholders, in order.
The deletion passes are leftmost-first and non-overlapping (`str::replace`), so after a placeholder's closing
brace a following `}}` is consumed "one brace early"; the proof carries that pending brace explicitly.
-/
namespace Strum

inductive FmtTok
  | openEsc                 -- `{{`
  | closeEsc                -- `}}`
  | ph (body : Bytes)       -- `{body}`
  | ch (c : Nat)            -- any other character
  deriving DecidableEq, Repr

def FmtTok.render : FmtTok → Bytes
  | .openEsc => [123, 123]
  | .closeEsc => [125, 125]
  | .ph body => 123 :: (body ++ [125])
  | .ch c => [c]

def FmtTok.wf : FmtTok → Prop
  | .ph body => ∀ x ∈ body, x ≠ 123 ∧ x ≠ 125
  | .ch c => c ≠ 123 ∧ c ≠ 125
  | _ => True

def renderToks (ts : List FmtTok) : Bytes := (ts.map FmtTok.render).flatten

/-- what `format!` binds: the argument name of each placeholder (text before `:`, trailing blanks trimmed) -/
def tokArgs (ts : List FmtTok) : List Bytes :=
  ts.filterMap (fun t => match t with | .ph body => some (argName body) | _ => none)

theorem renderToks_ph (body : Bytes) (ts : List FmtTok) :
    renderToks (.ph body :: ts) = 123 :: (body ++ 125 :: renderToks ts) := by
  simp [renderToks, FmtTok.render]

theorem removePair_pair (a b : Nat) (l : Bytes) : removePair a b (a :: b :: l) = removePair a b l := by
  rw [removePair, if_pos ⟨rfl, rfl⟩]

theorem removePair_cons_cons (a b x y : Nat) (l : Bytes) (h : ¬(x = a ∧ y = b)) :
    removePair a b (x :: y :: l) = x :: removePair a b (y :: l) := by
  rw [removePair, if_neg h]

theorem removePair_cons_ne (a b x : Nat) (l : Bytes) (h : x ≠ a) : removePair a b (x :: l) = x :: removePair a b l := by
  cases l with
  | nil => rfl
  | cons y rest => exact removePair_cons_cons a b x y rest (fun h' => h h'.1)

theorem removePair_prefix (a b : Nat) (pre l : Bytes) (h : ∀ x ∈ pre, x ≠ a) :
    removePair a b (pre ++ l) = pre ++ removePair a b l := by
  induction pre with
  | nil => rfl
  | cons x xs ih =>
    rw [List.cons_append, removePair_cons_ne a b x _ (h x List.mem_cons_self), ih (fun y hy => h y (List.mem_cons_of_mem _ hy))]
    rfl

/-- pass 1: deleting `{{` deletes exactly the `{{` tokens -/
theorem remove_open (ts : List FmtTok) (hwf : ∀ t ∈ ts, t.wf) :
    removePair 123 123 (renderToks ts) = renderToks (ts.filter (· ≠ .openEsc)) := by
  induction ts with
  | nil => rfl
  | cons t rest ih =>
    obtain ⟨hw, hwf⟩ := List.forall_mem_cons.1 hwf
    have ih := ih hwf
    -- one equation of `removePair` per token, then `ih`
    cases t with
    | openEsc => exact (removePair_pair 123 123 _).trans ih
    | closeEsc => exact (removePair_prefix 123 123 [125, 125] _ (by decide)).trans (congrArg _ ih)
    | ch c => exact (removePair_cons_ne 123 123 c _ hw.1).trans (congrArg _ ih)
    | ph body =>
      -- the opening brace is followed by the first byte of the body or by `}`, not by a second `{`
      have h2 (l : Bytes) : removePair 123 123 (123 :: (body ++ 125 :: l)) = 123 :: removePair 123 123 (body ++ 125 :: l) := by
        cases body with
        | nil => exact removePair_cons_cons 123 123 123 125 l (by decide)
        | cons y ys => exact removePair_cons_cons 123 123 123 y _ (fun h => (hw y List.mem_cons_self).1 h.2)
      rw [List.filter_cons_of_pos rfl, renderToks_ph, renderToks_ph, h2,
        removePair_prefix 123 123 body _ (fun x hx => (hw x hx).1), removePair_cons_ne 123 123 125 _ (by decide), ih]

def noOpen (ts : List FmtTok) : Prop := ∀ t ∈ ts, t ≠ .openEsc

/-- pass 2 (on a literal without `{{`): deleting `}}` deletes exactly the `}}` tokens *as a string*; the second
    component is the same statement with a pending closing brace in front (see the file header) -/
theorem remove_close (ts : List FmtTok) (hwf : ∀ t ∈ ts, t.wf) (hno : noOpen ts) :
    removePair 125 125 (renderToks ts) = renderToks (ts.filter (· ≠ .closeEsc)) ∧
    removePair 125 125 (125 :: renderToks ts) = 125 :: renderToks (ts.filter (· ≠ .closeEsc)) := by
  induction ts with
  | nil => exact ⟨rfl, rfl⟩
  | cons t rest ih =>
    obtain ⟨hw, hwf⟩ := List.forall_mem_cons.1 hwf
    obtain ⟨ht, hno⟩ := List.forall_mem_cons.1 hno
    obtain ⟨ih1, ih2⟩ := ih hwf hno
    cases t with
    | openEsc => exact absurd rfl ht
    | closeEsc => exact ⟨(removePair_pair 125 125 _).trans ih1, (removePair_pair 125 125 _).trans ih2⟩
    | ch c =>
      have h1 := (removePair_cons_ne 125 125 c _ hw.2).trans (congrArg _ ih1)
      exact ⟨h1, (removePair_cons_cons 125 125 125 c _ (fun h => hw.2 h.2)).trans (congrArg _ h1)⟩
    | ph body =>
      -- the placeholder's own closing brace is the pending one for the rest
      have h1 : removePair 125 125 (renderToks (.ph body :: rest)) =
          renderToks ((FmtTok.ph body :: rest).filter (· ≠ .closeEsc)) := by
        rw [List.filter_cons_of_pos rfl, renderToks_ph, renderToks_ph, removePair_cons_ne 125 125 123 _ (by decide),
          removePair_prefix 125 125 body _ (fun x hx => (hw x hx).2), ih2]
      exact ⟨h1, (removePair_cons_cons 125 125 125 123 _ (by decide)).trans (congrArg _ h1)⟩

def noEsc (ts : List FmtTok) : Prop := ∀ t ∈ ts, t ≠ .openEsc ∧ t ≠ .closeEsc

theorem captureGo_body (body : Bytes) (h : ∀ x ∈ body, x ≠ 123 ∧ x ≠ 125) (acc l : Bytes) :
    captureGo (some acc) (body ++ l) = captureGo (some (acc ++ body)) l := by
  induction body generalizing acc with
  | nil => rw [List.append_nil]; rfl
  | cons x xs ih =>
    have hx := h x List.mem_cons_self
    rw [List.cons_append, captureGo, if_neg hx.1, if_neg hx.2, ih (fun y hy => h y (List.mem_cons_of_mem _ hy)),
      List.append_assoc]
    rfl

/-- pass 3: on a literal without escapes the scan returns the placeholders' argument names -/
theorem capture_plain (ts : List FmtTok) (hwf : ∀ t ∈ ts, t.wf) (hne : noEsc ts) :
    captureGo none (renderToks ts) = .ok (tokArgs ts) := by
  induction ts with
  | nil => rfl
  | cons t rest ih =>
    obtain ⟨hw, hwf⟩ := List.forall_mem_cons.1 hwf
    obtain ⟨ht, hne⟩ := List.forall_mem_cons.1 hne
    have ih := ih hwf hne
    cases t with
    | openEsc => exact absurd rfl ht.1
    | closeEsc => exact absurd rfl ht.2
    | ch c =>
      show captureGo none (c :: renderToks rest) = _
      rw [captureGo, if_neg hw.1, if_neg hw.2, ih]
      rfl
    | ph body =>
      rw [renderToks_ph, captureGo, if_pos rfl, captureGo_body body hw [] _, captureGo, if_neg (by decide), if_pos rfl, ih]
      rfl

theorem tokArgs_filter (ts : List FmtTok) (p : FmtTok → Bool) (hp : ∀ body, p (.ph body) = true) :
    tokArgs (ts.filter p) = tokArgs ts := by
  unfold tokArgs
  rw [List.filterMap_filter]
  congr 1
  funext t
  cases t <;> simp [hp]

/-- **The macro's scanner agrees with the format-string grammar on every well-formed literal.** -/
theorem capture_eq_parse (ts : List FmtTok) (hwf : ∀ t ∈ ts, t.wf) :
    captureFormatStrings (renderToks ts) = .ok (tokArgs ts) := by
  have hwf1 : ∀ t ∈ ts.filter (· ≠ .openEsc), t.wf := fun t ht => hwf t (List.mem_filter.1 ht).1
  have hno1 : noOpen (ts.filter (· ≠ .openEsc)) := fun t ht => of_decide_eq_true (List.mem_filter.1 ht).2
  rw [captureFormatStrings, remove_open ts hwf, (remove_close _ hwf1 hno1).1,
    capture_plain _ (fun t ht => hwf1 t (List.mem_filter.1 ht).1)
      (fun t ht => ⟨hno1 t (List.mem_filter.1 ht).1, of_decide_eq_true (List.mem_filter.1 ht).2⟩),
    tokArgs_filter _ _ (fun _ => rfl), tokArgs_filter _ _ (fun _ => rfl)]

/-! non-vacuity: `{{{a:>4}}} x {b }}}` -/
example : captureFormatStrings (renderToks [.openEsc, .ph [97, 58, 62, 52], .closeEsc, .ch 32, .ch 120, .ch 32, .ph [98, 32], .closeEsc])
    = .ok [[97], [98]] := by rfl

end Strum
