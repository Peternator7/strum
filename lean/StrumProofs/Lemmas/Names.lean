import StrumModel.Display
import StrumProofs.Lemmas.Lookup
/-
The string-producing derives: `max_by_key` (the longest `serialize` literal), `mapExcept` (the generator fails when one
variant's arm fails), and the lookup of a variant's arm in the generated arm list (`genNames`, `lookupArm`), from which
`displayOut` / `strOut` of an enabled variant are read off.
-/
namespace Strum

theorem foldl_max_spec {α : Type} (key : α → Nat) (xs : List α) (x : α) :
    let r := xs.foldl (fun best y => if key best ≤ key y then y else best) x
    (r = x ∨ r ∈ xs) ∧ key x ≤ key r ∧ ∀ y ∈ xs, key y ≤ key r := by
  induction xs generalizing x with
  | nil => exact ⟨.inl rfl, Nat.le_refl _, nofun⟩
  | cons z zs ih =>
    rw [List.foldl_cons]
    split
    · next h =>
      have ⟨hm, hz, hzs⟩ := ih z
      exact ⟨.inr (List.mem_cons.2 hm), Nat.le_trans h hz, List.forall_mem_cons.2 ⟨hz, hzs⟩⟩
    · next h =>
      have ⟨hm, hx, hzs⟩ := ih x
      exact ⟨hm.imp_right (List.mem_cons_of_mem z), hx, List.forall_mem_cons.2 ⟨Nat.le_trans (Nat.le_of_not_le h) hx, hzs⟩⟩

/-- `max_by_key`: the result is a member and no member has a larger key -/
theorem maxByKeyLast_spec {α : Type} (key : α → Nat) (l : List α) (x : α)
    (h : maxByKeyLast key l = some x) : x ∈ l ∧ ∀ y ∈ l, key y ≤ key x := by
  cases l with
  | nil => cases h
  | cons a as =>
    cases h
    have ⟨hm, ha, has⟩ := foldl_max_spec key as a
    exact ⟨List.mem_cons.2 hm, List.forall_mem_cons.2 ⟨ha, has⟩⟩

theorem maxByKeyLast_none {α : Type} (key : α → Nat) (l : List α) :
    maxByKeyLast key l = none ↔ l = [] := by
  cases l <;> simp [maxByKeyLast]

/-- the printed name (no prefix) is always one of the spellings the parser lists -/
theorem printed_mem_serializations (cs : Option CaseStyle) (v : Variant) :
    preferredName cs none v ∈ serializations cs v := by
  unfold preferredName serializations
  cases ht : v.toStr with
  | some t => simp
  | none =>
    cases hm : maxByKeyLast List.length v.serialize with
    | some s =>
      have := (maxByKeyLast_spec _ _ _ hm).1
      simp [List.ne_nil_of_mem this, this]
    | none => simp [(maxByKeyLast_none _ _).1 hm, identAsStr]

theorem serializations_ne_nil (cs : Option CaseStyle) (v : Variant) : serializations cs v ≠ [] := by
  unfold serializations
  simp only
  split
  · simp
  · next h => intro h2; rw [h2] at h; simp at h

theorem map_of_mapExcept_ok {α β ε : Type} (f : α → Except ε β) (l : List α) (r : List β)
    (h : mapExcept f l = .ok r) : l.map f = r.map .ok := by
  induction l generalizing r with
  | nil => cases h; rfl
  | cons x xs ih =>
    rw [mapExcept] at h
    split at h
    · cases h
    · next b hx =>
      split at h
      · cases h
      · next bs hxs =>
        cases h
        rw [List.map_cons, List.map_cons, hx, ih bs hxs]

theorem mapExcept_ok_lookup {α β ε : Type} (f : α → Except ε β) (l : List α) (r : List β)
    (h : mapExcept f l = .ok r) : r.length = l.length ∧ ∀ a ∈ l, ∃ b ∈ r, f a = .ok b := by
  have h := map_of_mapExcept_ok f l r h
  refine ⟨by simpa using (congrArg List.length h).symm, fun a ha => ?_⟩
  have ⟨b, hb, e⟩ := List.mem_map.1 (h ▸ List.mem_map_of_mem ha)
  exact ⟨b, hb, e.symm⟩

/-- the arm list is looked up like the variant list it was generated from; both sides are read under `Except.ok`, so that
    the equation also says that the arm of the variant found was generated -/
theorem lookupArm_mapExcept (f : Variant → Except NameErr NameArm) (l : List Variant) (arms : List (Bytes × NameArm))
    (h : mapExcept (fun v => (f v).map (fun a => (v.ident, a))) l = .ok arms) (k : Bytes) :
    (lookupArm arms k).map .ok = (l.find? (fun v => v.ident == k)).map f := by
  induction l generalizing arms with
  | nil => cases h; rfl
  | cons x xs ih =>
    rw [mapExcept] at h
    split at h
    · cases h
    · next p hx =>
      split at h
      · cases h
      · next ps hxs =>
        cases h
        cases ha : f x with
        | error e => rw [ha] at hx; cases hx
        | ok a =>
          rw [ha] at hx
          cases hx
          rw [List.find?_cons, lookupArm, List.find?_cons]
          cases x.ident == k
          · exact ih ps hxs
          · exact congrArg some ha.symm

/-- the generated `match`, read at a declared variant: an enabled one selects its own arm, a disabled one has none -/
theorem genNames_lookup_eq (d : EnumDef) (dv : NameDerive) (arms : List (Bytes × NameArm))
    (h : genNames d dv = .ok arms) (hid : (d.variants.map (·.ident)).Nodup) (v : Variant) (hv : v ∈ d.variants) :
    (lookupArm arms v.ident).map .ok = if v.disabled then none else some (armOf d dv v) := by
  rw [lookupArm_mapExcept (armOf d dv) d.enabled arms h, find_enabled d hid v hv]
  cases v.disabled <;> rfl

/-- the arm the generated impl selects for an enabled variant -/
theorem genNames_lookup (d : EnumDef) (dv : NameDerive) (arms : List (Bytes × NameArm))
    (h : genNames d dv = .ok arms) (hid : (d.variants.map (·.ident)).Nodup)
    (v : Variant) (hv : v ∈ d.variants) (hen : v.disabled = false) :
    ∃ a, armOf d dv v = .ok a ∧ lookupArm arms v.ident = some a := by
  have h := genNames_lookup_eq d dv arms h hid v hv
  rw [hen] at h
  have ⟨a, hl, ha⟩ := Option.map_eq_some_iff.1 h
  exact ⟨a, ha.symm, hl⟩

/-- no arm exists for a disabled variant: the `_ => panic!(..)` arm is taken -/
theorem genNames_lookup_disabled (d : EnumDef) (dv : NameDerive) (arms : List (Bytes × NameArm))
    (h : genNames d dv = .ok arms) (hid : (d.variants.map (·.ident)).Nodup)
    (v : Variant) (hv : v ∈ d.variants) (hdis : v.disabled = true) :
    lookupArm arms v.ident = none := by
  have h := genNames_lookup_eq d dv arms h hid v hv
  rw [hdis] at h
  exact Option.map_eq_none_iff.1 h

/-- a generated impl that compiles returns, on a value of an enabled variant, what it makes of that variant's own arm -/
theorem genNames_map_lookup {β : Type} (F : Option NameArm → β) (d : EnumDef) (dv : NameDerive)
    (hid : (d.variants.map (·.ident)).Nodup) (v : Variant) (hv : v ∈ d.variants) (hen : v.disabled = false) (o : β)
    (h : (genNames d dv).map (fun arms => F (lookupArm arms v.ident)) = .ok o) :
    ∃ a, armOf d dv v = .ok a ∧ o = F (some a) := by
  cases hg : genNames d dv with
  | error e => rw [hg] at h; cases h
  | ok arms =>
    rw [hg] at h
    cases h
    have ⟨a, ha, hl⟩ := genNames_lookup d dv arms hg hid v hv hen
    exact ⟨a, ha, congrArg F hl⟩

theorem displayOut_ok (d : EnumDef) (hid : (d.variants.map (·.ident)).Nodup) (v : Variant) (hv : v ∈ d.variants)
    (hen : v.disabled = false) (inner : FmtSpec → Bytes) (sp : FmtSpec) (o : ShowOut) (h : displayOut d v inner sp = .ok o) :
    ∃ a, displayArm d v = .ok a ∧ o = showWith (some a) inner true sp :=
  genNames_map_lookup (showWith · inner true sp) d .display hid v hv hen o h

theorem strOut_ok (d : EnumDef) (hid : (d.variants.map (·.ident)).Nodup) (v : Variant) (hv : v ∈ d.variants)
    (hen : v.disabled = false) (dv : NameDerive) (inner : Bytes) (o : ShowOut) (h : strOut d dv v inner = .ok o) :
    ∃ a, armOf d dv v = .ok a ∧ o = showWith (some a) (fun _ => inner) false {} :=
  genNames_map_lookup (showWith · (fun _ => inner) false {}) d dv hid v hv hen o h

end Strum
