import StrumModel.Overlap
/-
What `genFromStr` emits and what `FromStrImpl.eval` makes of it, for every definition, with or without `use_phf`
and whether or not spellings overlap: `parse_eq`.  C01, C16 and C18 specialise it.
-/
namespace Strum

/-- the part of `genFromStr` that does not look at the spellings: the fall-through and `FromStr::Err`, chosen from
    the `default` variants and `parse_err_ty`/`parse_err_fn` -/
def genFall (d : EnumDef) : Except GenErr (Fallthrough × ErrTy) :=
  match d.defaults with
  | [] => .ok (if d.customErr then .errCustom else .errStd, if d.customErr then .custom else .strumParseError)
  | [v] => if v.fields.arity = 1 then .ok (.okCapture v.ident, .strumParseError) else .error .defaultShape
  | _ :: _ :: _ => .error .twoDefaults

theorem genFromStr_eq (d : EnumDef) :
    genFromStr d =
      if hasDupKey ((d.candidates.flatMap (phfOfVariant d)).map armKey) then .error .phfDupKey
      else (genFall d).map fun fe =>
        ⟨d.candidates.flatMap (phfOfVariant d), d.candidates.flatMap (armsOfVariant d), fe.1, fe.2⟩ := by
  unfold genFromStr genFall
  rcases d.defaults with _ | ⟨v, _ | _⟩
  · rfl
  · dsimp only
    split
    · rfl
    · split <;> rfl
  · rfl

theorem genFromStr_ok {d : EnumDef} {p : FromStrImpl} (hg : genFromStr d = .ok p) :
    p.phf = d.candidates.flatMap (phfOfVariant d) ∧ p.arms = d.candidates.flatMap (armsOfVariant d) ∧
      genFall d = .ok (p.fall, p.errTy) := by
  rw [genFromStr_eq] at hg
  split at hg
  · cases hg
  · cases hf : genFall d with
    | error e =>
      rw [hf] at hg
      cases hg
    | ok fe =>
      rw [hf] at hg
      cases hg
      exact ⟨rfl, rfl, rfl⟩

/-- the fall-through is the (single) enabled `default` variant when there is one, else the error selected by
    `parse_err_ty`/`parse_err_fn`, and only then is `FromStr::Err` the declared type -/
theorem genFall_ok {d : EnumDef} {f : Fallthrough} {e : ErrTy} (h : genFall d = .ok (f, e)) :
    ((d.defaults = [] ∧ f = (if d.customErr then .errCustom else .errStd)) ∨
      (∃ v, d.defaults = [v] ∧ v.fields.arity = 1 ∧ f = .okCapture v.ident)) ∧
    e = if d.customErr = true ∧ d.defaults = [] then .custom else .strumParseError := by
  unfold genFall at h
  split at h
  · next h0 =>
    cases h
    refine ⟨Or.inl ⟨h0, rfl⟩, ?_⟩
    rw [h0]
    cases d.customErr <;> rfl
  · next v h1 =>
    split at h
    · next har =>
      cases h
      exact ⟨Or.inr ⟨v, h1, har, rfl⟩, (if_neg fun h => List.cons_ne_nil _ _ (h1 ▸ h.2)).symm⟩
    · cases h
  · cases h

/-- two enabled `default` variants, or one without exactly one field, are an error whatever the spellings are -/
theorem genFromStr_error_of_defaults {d : EnumDef}
    (h : 2 ≤ d.defaults.length ∨ ∃ v ∈ d.defaults, v.fields.arity ≠ 1) : ∃ e, genFromStr d = .error e := by
  -- a generator that succeeds has no `default` variant, or exactly one, with one field (`genFall_ok`)
  cases hg : genFromStr d with
  | error e => exact ⟨e, rfl⟩
  | ok p =>
    rcases (genFall_ok (genFromStr_ok hg).2.2).1 with ⟨h0, _⟩ | ⟨v, hv, har, _⟩
    · rw [h0] at h
      exact h.elim (fun h => nomatch h) fun ⟨_, hw, _⟩ => nomatch hw
    · rw [hv] at h
      exact h.elim (fun h => absurd h (by simp)) fun ⟨w, hw, hne⟩ => absurd (List.mem_singleton.1 hw ▸ har) hne

theorem fall_of_no_default {d : EnumDef} {p : FromStrImpl} (hg : genFromStr d = .ok p) (hnd : d.defaults = []) :
    p.fall = if d.customErr then .errCustom else .errStd := by
  rcases (genFall_ok (genFromStr_ok hg).2.2).1 with ⟨_, hf⟩ | ⟨v, hd, _⟩
  · exact hf
  · rw [hnd] at hd
    cases hd

theorem fall_of_default {d : EnumDef} {p : FromStrImpl} (hg : genFromStr d = .ok p) {v : Variant}
    (hd : d.defaults = [v]) : p.fall = .okCapture v.ident := by
  rcases (genFall_ok (genFromStr_ok hg).2.2).1 with ⟨h0, _⟩ | ⟨w, hw, _, hf⟩
  · rw [h0] at hd
    cases hd
  · rw [hw] at hd
    cases hd
    exact hf

/-- (ident, payload) of an arm: all that the generated `match` returns -/
def Arm.result (a : Arm) : Bytes × List FieldInit := (a.ident, a.payload)

theorem firstMatch_eq_find? (as : List Arm) (s : Bytes) : firstMatch as s = as.find? (·.pat.accepts s) := by
  induction as with
  | nil => rfl
  | cons a as ih =>
    rw [firstMatch, List.find?_cons, ih]
    cases a.pat.accepts s <;> rfl

/-- arms that differ only in the literal of their pattern: one of them fires iff some literal matches -/
theorem firstMatch_map (pat : Bytes → Pat) (i : Bytes) (pl : List FieldInit) (l : List Bytes) (s : Bytes) :
    (firstMatch (l.map fun k => ⟨pat k, i, pl⟩) s).map Arm.result =
      if l.any (fun k => (pat k).accepts s) then some (i, pl) else none := by
  induction l with
  | nil => rfl
  | cons k ks ih =>
    rw [List.map_cons, firstMatch, List.any_cons]
    cases (pat k).accepts s
    · exact ih
    · rfl

/-- a block of arms per element, each block deciding like `acc`: the first match is the first element `acc` holds of -/
theorem firstMatch_flatMap {α : Type} (f : α → List Arm) (acc : α → Bool) (g : α → Bytes × List FieldInit)
    (s : Bytes) (h : ∀ x, (firstMatch (f x) s).map Arm.result = if acc x then some (g x) else none) (l : List α) :
    (firstMatch (l.flatMap f) s).map Arm.result = (l.find? acc).map g := by
  induction l with
  | nil => rfl
  | cons x xs ih =>
    have hx := h x
    rw [List.flatMap_cons, firstMatch_eq_find?, List.find?_append, ← firstMatch_eq_find?, ← firstMatch_eq_find?,
      List.find?_cons]
    cases ha : acc x
    · rw [ha, if_neg Bool.false_ne_true, Option.map_eq_none_iff] at hx
      rw [hx]
      exact ih
    · rw [ha, if_pos rfl, Option.map_eq_some_iff] at hx
      obtain ⟨a, hf, hr⟩ := hx
      rw [hf]
      exact congrArg some hr

/-- without `use_phf` every spelling has an arm; with it only those of a case-insensitive variant (its guards) -/
theorem armsOfVariant_eq (d : EnumDef) (v : Variant) :
    armsOfVariant d v =
      if d.ciOf v || !d.usePhf then
        (serializations d.style v).map fun sp => ⟨if d.ciOf v then .guardCI sp else .lit sp, v.ident, payloadOf v⟩
      else [] := by
  unfold armsOfVariant
  cases d.ciOf v <;> cases d.usePhf <;> simp

theorem firstMatch_armsOfVariant (d : EnumDef) (v : Variant) (s : Bytes) :
    (firstMatch (armsOfVariant d v) s).map Arm.result =
      if (d.ciOf v || !d.usePhf) && accepts d v s then some (v.ident, payloadOf v) else none := by
  rw [armsOfVariant_eq]
  cases d.ciOf v || !d.usePhf
  · rfl
  · rw [if_pos rfl, firstMatch_map, Bool.true_and, accepts]
    cases d.ciOf v <;> rfl

theorem firstMatch_phfOfVariant (d : EnumDef) (v : Variant) (s : Bytes) :
    (firstMatch (phfOfVariant d v) s).map Arm.result =
      if d.usePhf && (phfKeysOfVariant d v).contains s then some (v.ident, payloadOf v) else none := by
  unfold phfOfVariant
  cases d.usePhf
  · rfl
  · rw [if_pos rfl, firstMatch_map, Bool.true_and, List.contains_eq_any_beq]
    rfl

theorem FromStrImpl.eval_eq (p : FromStrImpl) (s : Bytes) :
    p.eval s =
      match ((firstMatch p.phf s).or (firstMatch p.arms s)).map Arm.result with
      | some r => .ok r.1 r.2
      | none => p.fall.eval s := by
  unfold FromStrImpl.eval
  cases firstMatch p.phf s
  · cases firstMatch p.arms s <;> rfl
  · rfl

/-- **What the generated `from_str` computes**, with or without `use_phf`, whether or not spellings overlap: the first
    candidate that has the input among its phf keys; else the first candidate one of whose match arms accepts it;
    else the fall-through. -/
theorem parse_eq (d : EnumDef) (p : FromStrImpl) (hg : genFromStr d = .ok p) (s : Bytes) :
    parse d s = .ok
      (match (d.candidates.find? fun v => d.usePhf && (phfKeysOfVariant d v).contains s).or
             (d.candidates.find? fun v => (d.ciOf v || !d.usePhf) && accepts d v s) with
       | some v => .ok v.ident (payloadOf v)
       | none => p.fall.eval s) := by
  obtain ⟨hp, ha, _⟩ := genFromStr_ok hg
  rw [parse, hg, Except.map, FromStrImpl.eval_eq, hp, ha, Option.map_or,
    firstMatch_flatMap _ _ _ s (firstMatch_phfOfVariant d · s), firstMatch_flatMap _ _ _ s (firstMatch_armsOfVariant d · s),
    ← Option.map_or]
  generalize Option.or _ _ = o
  cases o <;> rfl

end Strum
