import StrumModel.Source
/-
The shape the three attribute loops of `get_type_properties` / `get_variant_properties` share
(`collectItems`, `collectEItems`, `dItems`): a fold in `Except` whose step fails if the item's single-use
kind, when it has one, has been seen before, and otherwise updates the state.  `foldlM_guarded` reads such a
loop once and for all: it succeeds iff no kind occurs twice, and then it is the plain fold of the updates.
The last part is about `lastOf`, through which the declarative readings pick the value of a single-use item.
-/
namespace Strum

def SucceedsIff {ε α : Type} (x : Except ε α) (A : Prop) (d : α) : Prop :=
  (A → x = .ok d) ∧ (¬ A → ∃ e, x = .error e)

namespace SucceedsIff
variable {ε α : Type} {x x' : Except ε α} {A A' : Prop} {d d' : α}

theorem ok_iff (h : SucceedsIff x A d) {v : α} : x = .ok v ↔ A ∧ v = d := by
  refine ⟨fun hv => ?_, fun ⟨ha, hv⟩ => hv ▸ h.1 ha⟩
  by_cases ha : A
  · exact ⟨ha, Except.ok.inj (hv.symm.trans (h.1 ha))⟩
  · obtain ⟨e, he⟩ := h.2 ha
    exact nomatch he.symm.trans hv

theorem error_iff (h : SucceedsIff x A d) : (∃ e, x = .error e) ↔ ¬ A :=
  ⟨fun ⟨_, he⟩ ha => (nomatch (h.1 ha).symm.trans he), h.2⟩

theorem toOption_congr (h : SucceedsIff x A d) (h' : SucceedsIff x' A' d') (hA : A ↔ A') (hd : A → d = d') :
    x.toOption = x'.toOption := by
  by_cases ha : A
  · rw [h.1 ha, h'.1 (hA.1 ha), hd ha]
  · obtain ⟨e, he⟩ := h.2 ha
    obtain ⟨e', he'⟩ := h'.2 (mt hA.2 ha)
    rw [he, he']; rfl

theorem congr (h : SucceedsIff x A d) (hA : A ↔ A') : SucceedsIff x A' d := propext hA ▸ h

theorem of_eq (h : SucceedsIff x A d) (hx : x' = x) (hd : d = d') : SucceedsIff x' A d' := hx ▸ hd ▸ h

theorem map {β : Type} (h : SucceedsIff x A d) (f : α → β) : SucceedsIff (x.map f) A (f d) :=
  ⟨fun ha => by rw [h.1 ha]; rfl, fun hna => have ⟨e, he⟩ := h.2 hna; ⟨e, by rw [he]; rfl⟩⟩

theorem andThen {ε' β : Type} {y : α → Except ε' β} {B : Prop} {b : β} (h : SucceedsIff x A d) (g : ε → ε')
    (hy : SucceedsIff (y d) B b) : SucceedsIff ((x.mapError g).bind y) (A ∧ B) b := by
  by_cases ha : A
  · rw [h.1 ha]
    exact hy.congr (and_iff_right ha).symm
  · obtain ⟨e, he⟩ := h.2 ha
    rw [he]
    exact ⟨fun h => absurd h.1 ha, fun _ => ⟨g e, rfl⟩⟩

theorem guard (h : SucceedsIff x A d) (c : Prop) [Decidable c] (e : ε) :
    SucceedsIff (if c then x else .error e) (c ∧ A) d := by
  by_cases hc : c
  · rw [if_pos hc]; exact h.congr (and_iff_right hc).symm
  · rw [if_neg hc]; exact ⟨fun h => absurd h.1 hc, fun _ => ⟨e, rfl⟩⟩

end SucceedsIff

section
variable {σ τ ι κ ε : Type} [BEq κ] [LawfulBEq κ] (step : σ → ι → Except ε σ) (key : ι → Option κ)
  (seen : σ → κ → Bool) (err : κ → ε) (upd : σ → ι → σ) (π : σ → τ) (ap : τ → ι → τ)

theorem eq_foldlM (loop : σ → List ι → Except ε σ) (h0 : ∀ st, loop st [] = .ok st)
    (h1 : ∀ st it its, loop st (it :: its) = step st it >>= (loop · its)) (st : σ) (its : List ι) :
    loop st its = its.foldlM step st := by
  induction its generalizing st with
  | nil => exact h0 st
  | cons it its ih => rw [h1, List.foldlM_cons]; exact congrArg _ (funext ih)

/-- `key`: the single-use kind of an item; `seen st k`: the loop has met kind `k`; `π`: the part of the state that
    carries the result, on which an accepted item acts by `ap`. -/
theorem foldlM_guarded
    (hnone : ∀ st it, key it = none → step st it = .ok (upd st it))
    (hsome : ∀ st it k, key it = some k → step st it = if seen st k then .error (err k) else .ok (upd st it))
    (hseen : ∀ st it k, seen (upd st it) k = (some k == key it || seen st k))
    (hπ : ∀ st it, π (upd st it) = ap (π st) it)
    (its : List ι) (st : σ) :
    SucceedsIff ((its.foldlM step st).map π) ((its.filterMap key).Nodup ∧ ∀ k ∈ its.filterMap key, seen st k = false)
      (its.foldl ap (π st)) := by
  induction its generalizing st with
  | nil => exact ⟨fun _ => rfl, fun h => absurd ⟨List.nodup_nil, fun _ hk => nomatch hk⟩ h⟩
  | cons it its ih =>
    rw [List.foldlM_cons, List.foldl_cons, ← hπ]
    have h := ih (upd st it)
    cases hk : key it with
    | none =>
      simp only [hseen, hk, Option.some_beq_none, Bool.false_or] at h
      rw [List.filterMap_cons_none hk, hnone st it hk]
      exact h
    | some k =>
      rw [List.filterMap_cons_some hk, List.nodup_cons, List.forall_mem_cons, hsome st it k hk]
      cases hs : seen st k with
      | true => exact ⟨fun h => (nomatch h.2.1), fun _ => ⟨err k, rfl⟩⟩
      | false =>
        simp only [hseen, hk, Bool.or_eq_false_iff, Option.some_beq_some, beq_eq_false_iff_ne] at h
        -- the condition on `it :: its` from `st` is the condition on `its` from the updated state
        exact h.congr
          ⟨fun ⟨hd, hf⟩ => ⟨⟨fun hx => (hf k hx).1 rfl, hd⟩, rfl, fun x hx => (hf x hx).2⟩,
            fun ⟨⟨hn, hd⟩, _, hf⟩ => ⟨hd, fun x hx => ⟨fun e => hn (e ▸ hx), hf x hx⟩⟩⟩

end

section
variable {α β κ : Type} (g : α → Option β)

theorem lastOf_cons (a : α) (l : List α) : lastOf g (a :: l) = (lastOf g l).or (g a) := by
  unfold lastOf
  rw [List.filterMap_cons]
  cases g a with
  | none => rw [Option.or_none]
  | some b => rw [List.getLast?_cons]; cases (l.filterMap g).getLast? <;> rfl

/-- a getter `g` that only reads items of the single-use kind `k` reads at most one item where no kind is written twice -/
theorem length_filterMap_le_one {key : α → Option κ} {k : κ} (hg : ∀ a b, g a = some b → key a = some k) :
    ∀ {l : List α}, (l.filterMap key).Nodup → (l.filterMap g).length ≤ 1
  | [], _ => Nat.zero_le 1
  | a :: l, hn => by
    cases hga : g a with
    | none =>
      rw [List.filterMap_cons_none hga]
      exact length_filterMap_le_one hg (hn.sublist ((List.sublist_cons_self a l).filterMap key))
    | some b =>
      rw [List.filterMap_cons_some (hg a b hga), List.nodup_cons] at hn
      have hnil : l.filterMap g = [] := List.filterMap_eq_nil_iff.2 fun a' ha' => by
        cases hga' : g a' with
        | none => rfl
        | some b' => exact absurd (List.mem_filterMap.2 ⟨a', ha', hg a' b' hga'⟩) hn.1
      rw [List.filterMap_cons_some hga, hnil]
      exact Nat.le_refl 1

theorem lastOf_perm {key : α → Option κ} {k : κ} (hg : ∀ a b, g a = some b → key a = some k) {l l' : List α}
    (hp : l.Perm l') (hn : (l.filterMap key).Nodup) : lastOf g l = lastOf g l' := by
  unfold lastOf
  have hq := hp.filterMap g
  match h : l.filterMap g, length_filterMap_le_one g hg hn with
  | [], _ => rw [h] at hq; rw [← hq.nil_eq]
  | [b], _ => rw [h] at hq; rw [← hq.singleton_eq]

theorem filterMap_swap (pre post : List α) (a b : α) (h : g a = none ∨ g b = none) :
    (pre ++ a :: b :: post).filterMap g = (pre ++ b :: a :: post).filterMap g := by
  simp only [List.filterMap_append, List.filterMap_cons]
  rcases h with h | h <;> rw [h] <;> cases g _ <;> rfl

end

end Strum
