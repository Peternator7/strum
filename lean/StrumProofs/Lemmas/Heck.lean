import StrumModel.Heck
import StrumProofs.Lemmas.Bytes
/-
heck's scanning state machine (`segGo`) equals a local, declarative word-boundary rule (`specGo`):

  there is a word boundary *before* a character `c` iff `c` is upper-case and the previous letter `p`
  of the segment (digits skipped) is lower-case, or is upper-case while the next character is
  lower-case (the acronym rule: `HTTPServer` = `HTTP` + `Server`).

The machine's tri-state is the case of the previous letter (`caseOf`).  It takes the acronym split where the
rule does, but the lower-to-upper split one character early, by looking ahead: after `c` instead of before
the next character.  While the rule still has that split to make it is *pending* (`pendingSplit`).
-/
namespace Strum

/-- the declarative boundary rule: previous letter `p`, this char `c`, next char `n` -/
def boundaryBefore (p : Option Nat) (c : Nat) (n : Option Nat) : Bool :=
  isUpper c &&
    (match p with
     | none => false
     | some p => isLower p || (isUpper p && (match n with | some n => isLower n | none => false)))

def nextPrev (p : Option Nat) (c : Nat) : Option Nat := if isLetter c then some c else p

/-- words of one segment according to the declarative rule (left to right, `cur` = the word being built) -/
def specGo : Option Nat → Bytes → Bytes → List Bytes
  | _, cur, [] => if cur.isEmpty then [] else [cur]
  | p, cur, c :: rest =>
    if boundaryBefore p c rest.head? then cur :: specGo (nextPrev p c) [c] rest
    else specGo (nextPrev p c) (cur ++ [c]) rest

theorem specGo_cons (p : Option Nat) (cur : Bytes) (c : Nat) (rest : Bytes) :
    specGo p cur (c :: rest) =
      if boundaryBefore p c rest.head? = true then cur :: specGo (nextPrev p c) [c] rest
      else specGo (nextPrev p c) (cur ++ [c]) rest := rfl

def caseOf : Option Nat → WordMode
  | none => .boundary
  | some p => if isLower p then .lower else if isUpper p then .upper else .boundary

/-- a pending split: the previous letter is lower-case and the coming character is upper-case -/
def pendingSplit (p : Option Nat) (c : Nat) : Bool := caseOf p == .lower && isUpper c

theorem pendingSplit_iff {p : Option Nat} {c : Nat} :
    pendingSplit p c = true ↔ caseOf p = .lower ∧ isUpper c = true := by
  simp only [pendingSplit, Bool.and_eq_true, beq_iff_eq]

theorem caseOf_nextPrev (p : Option Nat) (c : Nat) :
    caseOf (nextPrev p c) = if isLower c then .lower else if isUpper c then .upper else caseOf p := by
  unfold nextPrev isLetter
  cases hl : isLower c <;> cases hu : isUpper c <;> simp [caseOf, hl, hu]

/-- the rule is the pending split or the acronym split -/
theorem boundaryBefore_eq (p : Option Nat) (c : Nat) (n : Option Nat) :
    boundaryBefore p c n = (pendingSplit p c || (caseOf p == .upper && isUpper c && n.any isLower)) := by
  unfold boundaryBefore pendingSplit caseOf
  cases p with
  | none => cases isUpper c <;> rfl
  | some q =>
    dsimp only
    cases n <;> cases isLower q <;> cases isUpper q <;> cases isUpper c <;> rfl

/-- one step of the machine from the state that stands for `p`: its first test is the pending split at the
    next character, its second the acronym split at this one -/
theorem segGo_caseOf (p : Option Nat) (acc : Bytes) (c n : Nat) (rest : Bytes) :
    segGo (caseOf p) acc (c :: n :: rest) =
      if pendingSplit (nextPrev p c) n then (acc ++ [c]) :: segGo .boundary [] (n :: rest)
      else if caseOf p == .upper && isUpper c && isLower n then acc :: segGo .boundary [c] (n :: rest)
      else segGo (caseOf (nextPrev p c)) (acc ++ [c]) (n :: rest) := by
  rw [segGo, ← caseOf_nextPrev]
  rfl

/-- when the next character is lower-case the tri-state does not matter
    (this is why heck's reset to `Boundary` in the acronym branch is harmless) -/
theorem segGo_mode_irrelevant (m1 m2 : WordMode) (acc : Bytes) (n : Nat) (r : Bytes) (hn : isLower n = true) :
    segGo m1 acc (n :: r) = segGo m2 acc (n :: r) := by
  cases r with
  | nil => rfl
  | cons n2 r' =>
    simp only [segGo, hn, lower_not_upper hn, if_true, Bool.and_false, Bool.false_and, Bool.false_eq_true, if_false]

/-- The refinement, where no split is pending, together with what a pending split does to the rule's
    scan, by simultaneous induction. -/
theorem segGo_specGo_both (rest : Bytes) :
    (∀ (mode : WordMode) (acc : Bytes) (p : Option Nat) (c : Nat),
      mode = caseOf p → pendingSplit p c = false →
      segGo mode acc (c :: rest) = specGo p acc (c :: rest)) ∧
    (∀ (p : Option Nat) (cur : Bytes) (n : Nat), pendingSplit p n = true →
      specGo p cur (n :: rest) = cur :: segGo .boundary [] (n :: rest)) := by
  induction rest with
  | nil =>
    -- at the last character there is no acronym split
    refine ⟨fun mode acc p c _ hp => ?_, fun p cur n hp => ?_⟩
    · simp [specGo, segGo, boundaryBefore_eq, hp]
    · simp [specGo, segGo, boundaryBefore_eq, hp]
  | cons n r ih =>
    obtain ⟨ihP, ihQ⟩ := ih
    refine ⟨fun mode acc p c hm hp => ?_, fun p cur x hp => ?_⟩
    · subst hm
      rw [segGo_caseOf, specGo_cons, List.head?_cons, boundaryBefore_eq, hp, Bool.false_or, Option.any_some]
      cases hq : pendingSplit (nextPrev p c) n
      · -- both sides test for the acronym split; after it the machine is in `.boundary` whatever the case of `c`,
        -- which does not matter before a lower-case `n`
        rw [← ihP _ _ _ _ rfl hq, ← ihP _ _ _ _ rfl hq, if_neg Bool.false_ne_true]
        split
        · next h => rw [segGo_mode_irrelevant .boundary _ [c] n r (Bool.and_eq_true_iff.1 h).2]
        · rfl
      · -- the machine splits after `c`; the rule has no acronym split at `c`, as `n` is upper-case, and splits before `n`
        rw [ihQ _ _ _ hq, ihQ _ _ _ hq, upper_not_lower (pendingSplit_iff.1 hq).2, Bool.and_false]
        rfl
    · -- the rule splits before `x`; the machine, restarted at `x`, takes one plain step, as `x` is upper-case
      have hx := (pendingSplit_iff.1 hp).2
      have hc : caseOf (some x) = .upper := by
        simp only [caseOf, hx, upper_not_lower hx, if_true, Bool.false_eq_true, if_false]
      have hs : ∀ q, nextPrev q x = some x := by simp [nextPrev, isLetter, hx]
      have hq : pendingSplit (some x) n = false := by simp [pendingSplit, hc]
      have hm := segGo_caseOf none [] x n r
      rw [hs, hq, hc] at hm
      rw [specGo_cons, boundaryBefore_eq, hp, Bool.true_or, if_pos rfl, hs, ← ihP _ _ _ _ hc.symm hq]
      exact congrArg _ hm.symm

/-- words of a whole identifier by the declarative rule -/
def specWords (s : Bytes) : List Bytes := (splitNonAlnum [] s).flatMap (specGo none [])

/-- **heck's word list = the declarative word list, for every byte string.** -/
theorem heckWords_eq_specWords (s : Bytes) : heckWords s = specWords s := by
  unfold heckWords specWords
  congr 1
  funext seg
  cases seg with
  | nil => rfl
  | cons c rest => exact (segGo_specGo_both rest).1 .boundary [] none c rfl rfl

end Strum
