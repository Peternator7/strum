import StrumProofs.C04
import StrumProofs.C03
/-
C08 — COUNT, VariantNames, VariantArray and EnumIter describe the same variant list.
-/
namespace Strum

/-- `COUNT` = number of enabled variants = number of iterated items -/
theorem count_eq (d : EnumDef) (hN : 2 * (iterTable d).length + 1 < W) :
    enumCount d = (d.variants.filter (fun v => !v.disabled)).length ∧
    enumCount d = (collectFuel (iterTable d).length ((iterTable d).length + 2) iterInit).length :=
  ⟨enumCount_eq d, (iter_count d hN).symm⟩

/-- `VariantNames::VARIANTS` has one entry per declared variant -/
theorem names_len (d : EnumDef) : (variantNames d).length = d.variants.length := variant_names_length d

/-- `VariantArray::VARIANTS` (field-less enums) has one entry per declared variant, in order -/
theorem array_spec (d : EnumDef) (l : List Bytes) (h : variantArray d = some l) :
    l = d.variants.map (·.ident) ∧ l.length = d.variants.length ∧ ∀ v ∈ d.variants, v.fields = .unit := by
  obtain ⟨hunit, rfl⟩ := variantArray_eq_some_iff.1 h
  exact ⟨rfl, List.length_map _, hunit⟩

/-- a data-carrying variant makes the derive fail (shared with C20) -/
theorem array_rejects_data (d : EnumDef) (v : Variant) (hv : v ∈ d.variants) (hf : v.fields ≠ .unit) :
    variantArray d = none :=
  variantArray_eq_none_iff.2 ⟨v, hv, hf⟩

/-- **Alignment.**  With no disabled variant, position `i` refers to the same variant in all four:
    the i-th iterated item, `VariantArray::VARIANTS[i]` and `VariantNames::VARIANTS[i]`. -/
theorem aligned (d : EnumDef) (hnd : ∀ v ∈ d.variants, v.disabled = false)
    (hN : 2 * (iterTable d).length + 1 < W) (l : List Bytes) (ha : variantArray d = some l) :
    enumCount d = d.variants.length ∧ l.length = d.variants.length ∧
    (variantNames d).length = d.variants.length ∧
    (collectFuel (iterTable d).length ((iterTable d).length + 2) iterInit).length = d.variants.length ∧
    ∀ i (hi : i < d.variants.length),
      l[i]? = some d.variants[i].ident ∧
      ((iterTable d)[i]?).map (·.1) = some d.variants[i].ident ∧
      (collectFuel (iterTable d).length ((iterTable d).length + 2) iterInit)[i]? = some i ∧
      (variantNames d)[i]? = some (canonical d d.variants[i]) := by
  have hen : d.enabled = d.variants := List.filter_eq_self.2 fun v hv => by rw [hnd v hv]; rfl
  have hlen : (iterTable d).length = d.variants.length := by rw [iterTable_length, hen]
  obtain ⟨_, rfl⟩ := variantArray_eq_some_iff.1 ha
  rw [iter_collect _ hN, hlen]
  refine ⟨by rw [enumCount_eq, hen], List.length_map _, names_len d, List.length_range, ?_⟩
  intro i hi
  have key {β : Type} (f : Variant → β) : (d.variants.map f)[i]? = some (f d.variants[i]) := by
    rw [List.getElem?_map, List.getElem?_eq_getElem hi]
    rfl
  refine ⟨key _, ?_, List.getElem?_range hi, ?_⟩
  · rw [← List.getElem?_map, iterTable_idents, hen, key]
  · rw [variantNames, key, preferredName_eq_canonical]

/-! non-vacuity -/
example : variantArray { variants := [{ ident := [65] }, { ident := [66] }] } = some [[65], [66]] := by decide

/-- **C08 at source level**: COUNT is the number of variants written without a `disabled` item -/
theorem source_count (s : RawSource) :
    enumCount s.declared = (s.variants.filter (fun r => !r.isDisabled)).length := by
  rw [enumCount_eq, source_enabled, List.length_map]

end Strum
