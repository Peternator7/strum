import StrumModel.DiscHeader
import StrumModel.Repr
import StrumProofs.Lemmas.Loop
/-
`#[strum_discriminants(..)]` collection and the header of the generated enum: the loop succeeds iff `name` and `vis` are
each written at most once and then equals the declarative reading; derive paths, doc lines and pass-through attributes
keep their source order and do not depend on where they stand relative to one another; the generated enum carries its
`derive` before every pass-through attribute; the token-level header and C09's value-level model (`genDiscriminants`)
give the generated enum the same name and decide `IntoDiscriminant` alike.
-/
namespace Strum

def applyD (p : DiscProps) : DItem → DiscProps
  | .derive ps => { p with derives := p.derives ++ ps }
  | .doc l => { p with docs := p.docs ++ [l] }
  | .other t => { p with others := p.others ++ [t] }
  | .name n => { p with name := some n }
  | .vis v => { p with vis := some v }

def DItem.kind? : DItem → Option DKind
  | .name _ => some .name
  | .vis _ => some .vis
  | _ => none

def nNames (its : List DItem) : Nat := (its.filterMap DItem.name?).length
def nVis (its : List DItem) : Nat := (its.filterMap DItem.vis?).length

theorem foldl_applyD (its : List DItem) (p : DiscProps) :
    its.foldl applyD p =
      { derives := p.derives ++ (its.filterMap DItem.derive?).flatten, docs := p.docs ++ its.filterMap DItem.doc?,
        others := p.others ++ its.filterMap DItem.other?, name := (lastOf DItem.name? its).or p.name,
        vis := (lastOf DItem.vis? its).or p.vis } := by
  induction its generalizing p with
  | nil => simp [lastOf]
  | cons it its ih =>
    rw [List.foldl_cons, ih]
    cases it <;> simp [applyD, lastOf_cons, List.filterMap_cons, DItem.derive?, DItem.doc?, DItem.other?, DItem.name?, DItem.vis?]

theorem foldD_eq_declared (its : List DItem) : its.foldl applyD {} = discDeclared its := by
  rw [foldl_applyD]; simp [discDeclared, lastOf]

theorem nodup_kinds_iff (its : List DItem) : (its.filterMap DItem.kind?).Nodup ↔ nNames its ≤ 1 ∧ nVis its ≤ 1 := by
  have hn : (fun a : DItem => a.kind? == some .name) = fun a => (DItem.name? a).isSome := funext fun a => by cases a <;> rfl
  have hv : (fun a : DItem => a.kind? == some .vis) = fun a => (DItem.vis? a).isSome := funext fun a => by cases a <;> rfl
  rw [List.nodup_iff_count, nNames, nVis, List.length_filterMap_eq_countP, List.length_filterMap_eq_countP, ← hn, ← hv,
    ← List.count_filterMap, ← List.count_filterMap]
  exact ⟨fun h => ⟨h .name, h .vis⟩, fun h k => match k with | .name => h.1 | .vis => h.2⟩

theorem discCollectable_iff (its : List DItem) : discCollectable its = true ↔ nNames its ≤ 1 ∧ nVis its ≤ 1 := by
  simp [discCollectable, nNames, nVis]

/-- **The `strum_discriminants` loop succeeds iff `name` and `vis` are each written at most once - wherever, in whichever
    attribute list - and then yields the declarative reading**: ALL derive paths, ALL doc lines and ALL pass-through
    attributes, each in source order, none of them depending on where the others stand. -/
theorem collectDisc_spec (attrs : List (List DItem)) :
    SucceedsIff (collectDisc attrs) (discCollectable attrs.flatten = true) (discDeclared attrs.flatten) := by
  have h := foldlM_guarded (step := dStep) (key := DItem.kind?)
    (seen := fun st k => match k with | .name => st.seenName | .vis => st.seenVis) (err := fun k => k)
    (upd := fun st it => match it with
      | .name _ => { p := applyD st.p it, seenName := true, seenVis := st.seenVis }
      | .vis _ => { p := applyD st.p it, seenName := st.seenName, seenVis := true }
      | _ => { st with p := applyD st.p it })
    (π := DState.p) (ap := applyD)
    (fun st it h => by cases it <;> first | rfl | cases h) (fun st it k h => by cases it <;> cases h <;> rfl)
    (fun st it k => by cases it <;> cases k <;> simp [DItem.kind?]) (fun st it => by cases it <;> rfl) attrs.flatten {}
  rw [← eq_foldlM dStep dItems (fun _ => rfl) fun st it its => by rw [dItems]; cases dStep st it <;> rfl,
    foldD_eq_declared] at h
  refine ((h.congr ((and_iff_left fun k _ => by cases k <;> rfl).trans (nodup_kinds_iff _))).congr
    (discCollectable_iff attrs.flatten).symm).of_eq ?_ rfl
  unfold collectDisc
  cases dItems {} attrs.flatten <;> rfl

theorem collectDisc_ok_iff (attrs : List (List DItem)) (p : DiscProps) :
    collectDisc attrs = .ok p ↔ discCollectable attrs.flatten = true ∧ p = discDeclared attrs.flatten :=
  (collectDisc_spec attrs).ok_iff

theorem collectDisc_error_iff (attrs : List (List DItem)) :
    (∃ k, collectDisc attrs = .error k) ↔ discCollectable attrs.flatten = false := by
  rw [← Bool.not_eq_true]; exact (collectDisc_spec attrs).error_iff

/-- every pass-through attribute is emitted, in source order, AFTER the derive attribute (a passed-through helper
    attribute such as `strum(..)` needs the derive that declares it to come first), and the doc lines before it -/
theorem header_order (en ev : Bytes) (reprs : List Bytes) (p : DiscProps) :
    ∃ pre, (discHeader en ev reprs p).attrs =
      p.docs.map (kwDoc ++ ·) ++ (kwDerive ++ stdDerives ++ commaSep p.derives ++ [41]) :: pre ++ p.others ∧
      pre.length ≤ 1 := by
  unfold discHeader
  by_cases hr : reprs.isEmpty = true
  · exact ⟨[], by simp [hr], by simp⟩
  · exact ⟨[kwRepr ++ commaSep reprs ++ [41]], by simp [hr], by simp⟩

/-- the pass-through attributes of the header are exactly the written ones, in source order, whatever else is written
    between or before them (in particular: before or after any `derive(..)`) -/
theorem header_others (en ev : Bytes) (reprs : List Bytes) (attrs : List (List DItem)) (p : DiscProps)
    (h : collectDisc attrs = .ok p) :
    p.others = attrs.flatten.filterMap DItem.other? ∧ p.derives = (attrs.flatten.filterMap DItem.derive?).flatten ∧
    p.docs = attrs.flatten.filterMap DItem.doc? := by
  obtain ⟨_, rfl⟩ := (collectDisc_ok_iff attrs p).mp h
  exact ⟨rfl, rfl, rfl⟩

theorem header_name_vis (en ev : Bytes) (reprs : List Bytes) (p : DiscProps) :
    (discHeader en ev reprs p).name = (match p.name with | some n => n | none => en ++ sufDiscriminants) ∧
    (discHeader en ev reprs p).vis = (match p.vis with | some v => v | none => ev) ∧
    ((discHeader en ev reprs p).intoDisc = true ↔ (p.vis = none ∨ p.vis = some kwPub)) := by
  unfold discHeader
  exact ⟨by cases p.name <;> rfl, by cases p.vis <;> rfl, by cases p.vis <;> simp⟩

/-- the attributes of a generated variant: the whitelisted ones verbatim, `strum_discriminants(x)` as `x`, everything
    else dropped - in source order; an error iff some `strum_discriminants` attribute is not a non-empty list -/
theorem variantAttrs_succeedsIff (as : List VAttr) :
    SucceedsIff (variantAttrsOut as) (∀ a ∈ as, variantAttrOut a ≠ some (.error ()))
      (as.filterMap fun a => match variantAttrOut a with | some (.ok t) => some t | _ => none) := by
  induction as with
  | nil => exact ⟨fun _ => rfl, fun h => absurd (fun _ ha => nomatch ha) h⟩
  | cons a as ih =>
    rw [variantAttrsOut, List.forall_mem_cons, List.filterMap_cons]
    match variantAttrOut a with
    | none => exact ih.congr (and_iff_right nofun).symm
    | some (.error ()) => exact ⟨fun h => absurd rfl h.1, fun _ => ⟨(), rfl⟩⟩
    | some (.ok t) =>
      refine ((ih.map (t :: ·)).congr (and_iff_right nofun).symm).of_eq ?_ rfl
      cases variantAttrsOut as <;> rfl

theorem variantAttrs_spec (as : List VAttr) (ts : List Bytes) (h : variantAttrsOut as = .ok ts) :
    ts = as.filterMap (fun a => match variantAttrOut a with | some (.ok t) => some t | _ => none) ∧
    ∀ a ∈ as, variantAttrOut a ≠ some (.error ()) :=
  ((variantAttrs_succeedsIff as).ok_iff.1 h).symm

theorem variantAttrs_error_iff (as : List VAttr) :
    variantAttrsOut as = .error () ↔ ∃ a ∈ as, variantAttrOut a = some (.error ()) := by
  have h := (variantAttrs_succeedsIff as).error_iff
  simp only [ne_eq, Classical.not_forall, Classical.not_not, exists_prop] at h
  exact ⟨fun he => h.1 ⟨(), he⟩, fun hx => (h.2 hx).elim fun () he => he⟩

/-- the visibility class C09's value-level model (`genDiscriminants`) works with, read off the collected `vis(..)` item -/
def discVisOf (p : DiscProps) : DiscVis :=
  match p.vis with
  | none => .inherit
  | some v => if v == kwPub then .pub else .restricted

/-- **the header model (token level, `discHeader`) and the value-level model (`genDiscriminants`, StrumModel/Repr.lean) give the
    generated enum the same name and decide `IntoDiscriminant` alike**, whatever the source enum's own visibility, repr
    attributes, doc lines, derives and pass-through attributes are -/
theorem header_agrees_with_gen (d : EnumDef) (ev : Bytes) (reprs : List Bytes) (p : DiscProps) :
    (discHeader d.name ev reprs p).name = (genDiscriminants d p.name (discVisOf p)).name ∧
    (discHeader d.name ev reprs p).intoDisc = (genDiscriminants d p.name (discVisOf p)).hasIntoDiscriminant := by
  unfold discHeader genDiscriminants discVisOf
  constructor
  · cases p.name <;> rfl
  · cases p.vis with
    | none => rfl
    | some v => cases hv : v == kwPub <;> simp [hv]

/-! ### non-vacuity -/

example : collectDisc [[.other [115]], [.derive [[72]], .name [75]], [.other [116], .derive [[79], [80]]]] =
    .ok { derives := [[72], [79], [80]], name := some [75], others := [[115], [116]] } := rfl
example : collectDisc [[.name [75]], [.doc [34, 34], .name [76]]] = .error .name := rfl

end Strum
