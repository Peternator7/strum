import StrumModel.Table
import StrumProofs.C07
import StrumProofs.Lemmas.Lookup
/-
C13 — EnumIs predicates partition the variants; EnumTryAs returns payloads unchanged.
Model: `isMethods`, `tryAsMethods`, `isEval`, `tryAsEval`, `tryAsMutWrite` (StrumModel/Table.lean),
mirroring enum_is.rs / enum_try_as.rs; `snakify` (StrumModel/Heck.lean) mirroring case_style.rs:163-178.
-/
namespace Strum

def isName (v : Variant) : Bytes := [105, 115, 95] ++ snakify v.ident   -- "is_" ++ snake name

/-- **Exactly one predicate is true** for a value whose variant is enabled: the one named after it. -/
theorem is_exactly_one (d : EnumDef) (hid : (d.variants.map (·.ident)).Nodup) (v : Variant) (hv : v ∈ d.variants)
    (hen : v.disabled = false) {α : Type} (e : EnumVal α) (he : e.ident = v.ident) :
    (isMethods d).filter (fun m => isEval m e) = [(isName v, v.ident)] := by
  unfold isMethods isEval
  rw [he, List.filter_map]
  exact congrArg _ (filter_key Variant.ident (enabled_idents_nodup d hid) (mem_enabled.2 ⟨hv, hen⟩))

/-- **For a disabled variant no predicate is true** (no method is generated for it, and every other
    method matches another variant). -/
theorem is_none_for_disabled (d : EnumDef) (hid : (d.variants.map (·.ident)).Nodup) (v : Variant) (hv : v ∈ d.variants)
    (hdis : v.disabled = true) {α : Type} (e : EnumVal α) (he : e.ident = v.ident) :
    ∀ m ∈ isMethods d, isEval m e = false := by
  intro m hm
  obtain ⟨w, hw, rfl⟩ := List.mem_map.1 hm
  rw [isEval, he, beq_eq_false_iff_ne]
  exact fun h => ident_not_enabled d hid hv hdis (h ▸ List.mem_map_of_mem hw)

/-- `try_as_*` methods exist exactly for the enabled tuple variants -/
theorem try_as_methods_spec (d : EnumDef) (m : Bytes × Bytes × Nat) :
    m ∈ tryAsMethods d ↔ ∃ v ∈ d.variants, v.disabled = false ∧ v.fields = .tuple m.2.2 ∧ m.2.1 = v.ident ∧
      m.1 = [116, 114, 121, 95, 97, 115, 95] ++ snakify v.ident := by
  obtain ⟨a, b, n⟩ := m
  unfold tryAsMethods
  rw [List.mem_filterMap]
  constructor
  · rintro ⟨v, hv, h⟩
    cases hf : v.fields with
    | tuple k =>
      rw [hf] at h
      cases h
      exact ⟨v, (mem_enabled.1 hv).1, (mem_enabled.1 hv).2, hf, rfl, rfl⟩
    | _ =>
      rw [hf] at h
      cases h
  · rintro ⟨v, hv, hen, hf, rfl, rfl⟩
    exact ⟨v, mem_enabled.2 ⟨hv, hen⟩, by rw [hf]⟩

/-- **`try_as_x` / `_ref` / `_mut` return `Some` exactly for that variant, carrying all fields in order;
    `None` for every other variant.** -/
theorem try_as_iff {α : Type} (m : Bytes × Bytes × Nat) (e : EnumVal α) (fs : List α) :
    tryAsEval m e = some fs ↔ e.ident = m.2.1 ∧ fs = e.fields := by
  unfold tryAsEval
  rw [Option.ite_none_right_eq_some, beq_iff_eq, Option.some.injEq]
  exact and_congr eq_comm eq_comm

/-- **Writes through `try_as_x_mut()` change `e` in place**: exactly those fields are replaced, the variant
    is unchanged; through a non-matching method nothing can be written. -/
theorem try_as_mut_writes {α : Type} (m : Bytes × Bytes × Nat) (e : EnumVal α) (new : List α) :
    (m.2.1 = e.ident → new.length = e.fields.length →
      (tryAsMutWrite m e new).ident = e.ident ∧ (tryAsMutWrite m e new).fields = new ∧
      tryAsEval m (tryAsMutWrite m e new) = some new) ∧
    (m.2.1 ≠ e.ident → tryAsMutWrite m e new = e) := by
  unfold tryAsMutWrite
  constructor
  · intro h1 h2
    simp [h1, h2, tryAsEval]
  · intro h
    rw [beq_false_of_ne h]
    rfl

/-- `snakify` = snake_case of the declarative word split, with `_` inserted before every digit run that is
    not at position 0 (`Hello2You` → `hello_2_you`) -/
theorem snakify_eq (id : Bytes) : snakify id = splitDigitsGo none (styleSpec .snake id) := by
  rw [← convert_case_spec]
  rfl

/-- a digit whose predecessor exists is preceded by a digit or by `_` -/
def digitsOk : Option Nat → Bytes → Bool
  | _, [] => true
  | prev, c :: cs =>
    (!isDigit c || (match prev with | none => true | some p => isDigit p || p == 95)) && digitsOk (some c) cs

/-- **Digits are split off**: in the generated name every maximal digit run is preceded by `_`
    (or starts the name). -/
theorem digits_split_off (l : Bytes) (prev : Option Nat) : digitsOk prev (splitDigitsGo prev l) = true := by
  induction l generalizing prev with
  | nil => rfl
  | cons c cs ih =>
    have h95 : isDigit 95 = false := by decide
    unfold splitDigitsGo
    cases prev with
    | none => simp [digitsOk, ih]
    | some p => cases hd : isDigit c <;> cases hp : isDigit p <;> simp [digitsOk, ih, h95, hd, hp]

theorem snakify_digits_ok (id : Bytes) : digitsOk none (snakify id) = true := by
  unfold snakify; exact digits_split_off _ none

/-! non-vacuity / regression examples -/
example : snakify [72, 101, 108, 108, 111, 50, 89, 111, 117] = [104, 101, 108, 108, 111, 95, 50, 95, 121, 111, 117] := by decide
-- the `Foo_1` quirk: the underscore heck already produced is doubled
example : snakify [70, 111, 111, 95, 49] = [102, 111, 111, 95, 95, 49] := by decide

end Strum
