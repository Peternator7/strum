import StrumProofs.Collect
/-
From the enum AS WRITTEN to the enum every generator works on: `collectAll` (the loops of `get_type_properties` and
`get_variant_properties`, with their occurrence state) succeeds exactly on collectable sources and then equals the
declarative reading `RawSource.declared` - so every property theorem stated over `EnumDef` holds of the source text's
attribute lists, variant by variant, in declaration order.
-/
namespace Strum

/-- **where no single-use item is written twice, `get_variant_properties` yields the declarative reading** (the converse is
    `collectVariant_error_iff`) -/
theorem collectVariant_declared (r : RawVariant) (h : (kindsOf r.attrs.flatten).Nodup) :
    collectVariant r = .ok r.declared :=
  (collectVariant_spec r).1 h

/-- **where the style strings are known and no item is written twice, `get_type_properties` yields the declarative
    reading** (the converse is `collectEnum_error_iff`) -/
theorem collectEnum_declared (r : RawEnum) (vs : List Variant) (hs : r.attrs.flatten.all styleOk = true)
    (hn : (ekindsOf r.attrs.flatten).Nodup) : collectEnum r vs = .ok (r.declared vs) :=
  (collectEnum_spec r vs).1 ⟨hs, hn⟩

theorem collectVariants_spec (i : Nat) (rs : List RawVariant) :
    SucceedsIff (collectVariants i rs) (∀ r ∈ rs, (kindsOf r.attrs.flatten).Nodup) (rs.map RawVariant.declared) := by
  induction rs generalizing i with
  | nil => exact ⟨fun _ => rfl, fun h => absurd (fun _ hr => nomatch hr) h⟩
  | cons r rs ih =>
    have h := (collectVariant_spec r).andThen (y := fun v => (collectVariants (i + 1) rs).map (v :: ·))
      (SourceErr.variant i) ((ih (i + 1)).map (r.declared :: ·))
    refine (h.of_eq ?_ rfl).congr (List.forall_mem_cons (p := fun r : RawVariant => (kindsOf r.attrs.flatten).Nodup)).symm
    rw [collectVariants]
    cases collectVariant r with
    | error k => rfl
    | ok v => cases collectVariants (i + 1) rs <;> rfl

/-- the first failing variant, in declaration order, is the one reported -/
theorem collectVariants_error (i : Nat) (rs : List RawVariant) (e : SourceErr) (h : collectVariants i rs = .error e) :
    ∃ j k, ∃ hj : j < rs.length, e = .variant (i + j) k ∧ collectVariant rs[j] = .error k ∧
      ∀ j' (hj' : j' < rs.length), j' < j → (kindsOf rs[j'].attrs.flatten).Nodup := by
  induction rs generalizing i with
  | nil => cases h
  | cons r rs ih =>
    rw [collectVariants] at h
    cases hc : collectVariant r with
    | error k =>
      rw [hc] at h
      cases h
      exact ⟨0, k, Nat.zero_lt_succ _, rfl, hc, fun _ _ h => absurd h (Nat.not_lt_zero _)⟩
    | ok v =>
      rw [hc] at h
      cases hr : collectVariants (i + 1) rs with
      | ok ws => rw [hr] at h; cases h
      | error e' =>
        rw [hr] at h
        cases h
        obtain ⟨j, k, hj, rfl, hk, hearlier⟩ := ih (i + 1) hr
        refine ⟨j + 1, k, Nat.succ_lt_succ hj, congrArg (SourceErr.variant · k) (Nat.add_right_comm i 1 j), hk,
          fun j' hj' hlt => ?_⟩
        cases j' with
        | zero => exact ((collectVariant_spec r).ok_iff.1 hc).1
        | succ j'' => exact hearlier j'' (Nat.lt_of_succ_lt_succ hj') (Nat.lt_of_succ_lt_succ hlt)

theorem collectable_iff (s : RawSource) :
    s.collectable = true ↔ s.hdr.attrs.flatten.all styleOk = true ∧ (ekindsOf s.hdr.attrs.flatten).Nodup ∧
      ∀ r ∈ s.variants, (kindsOf r.attrs.flatten).Nodup := by
  simp [RawSource.collectable, ekindsOf, kindsOf, and_assoc]

theorem collectAll_spec (s : RawSource) : SucceedsIff (collectAll s) (s.collectable = true) s.declared := by
  have h := (collectEnum_spec s.hdr []).andThen
    (y := fun d => (collectVariants 0 s.variants).map fun vs => { d with variants := vs }) SourceErr.enum
    ((collectVariants_spec 0 s.variants).map fun vs => { s.hdr.declared [] with variants := vs })
  refine (h.of_eq ?_ rfl).congr ((collectable_iff s).trans and_assoc.symm).symm
  unfold collectAll
  cases collectEnum s.hdr [] with
  | error e => rfl
  | ok d => cases collectVariants 0 s.variants <;> rfl

/-- **Collection = the declarative reading.**  The two loops with their occurrence state succeed exactly on collectable
    sources, and then produce `s.declared`: the enum-level properties read off the header, and one variant per written
    variant, in declaration order, each with the properties read off its own attribute lists. -/
theorem collectAll_ok_iff (s : RawSource) (d : EnumDef) :
    collectAll s = .ok d ↔ s.collectable = true ∧ d = s.declared :=
  (collectAll_spec s).ok_iff

theorem collectAll_error_iff (s : RawSource) : (∃ e, collectAll s = .error e) ↔ s.collectable = false := by
  rw [← Bool.not_eq_true]; exact (collectAll_spec s).error_iff

/-- enum-level errors are reported before any variant is looked at -/
theorem collectAll_enum_first (s : RawSource) (e : ECollectErr) (h : collectEnum s.hdr [] = .error e) :
    collectAll s = .error (.enum e) := by unfold collectAll; rw [h]

theorem readLines_fold (h : RawEnum) (rs : List RawVariant) (vs0 : List Variant)
    (hall : ∀ r ∈ rs, (kindsOf r.attrs.flatten).Nodup) :
    rs.foldl (fun acc r => acc.bind (addVariantLine · r)) (some (h.declared vs0)) =
      some (h.declared (vs0 ++ rs.map RawVariant.declared)) := by
  induction rs generalizing vs0 with
  | nil => simp
  | cons r rs ih =>
    have hr := collectVariant_declared r (hall r (by simp))
    have step : addVariantLine (h.declared vs0) r = some (h.declared (vs0 ++ [r.declared])) := by
      unfold addVariantLine; rw [hr]; rfl
    show rs.foldl _ (addVariantLine (h.declared vs0) r) = _
    rw [step, ih _ (fun r' hr' => hall r' (by simp [hr']))]
    simp

/-- **the driver's line-by-line reading is `collectAll`** on every source that collects -/
theorem readLines_eq (s : RawSource) (d : EnumDef) (h : collectAll s = .ok d) : readLines s = some d := by
  obtain ⟨hc, rfl⟩ := (collectAll_ok_iff s d).mp h
  obtain ⟨h1, h2, h3⟩ := (collectable_iff s).mp hc
  unfold readLines
  rw [collectEnum_declared _ _ h1 h2]
  simp only [Except.toOption]
  rw [readLines_fold _ _ _ h3]
  rfl

/- Everything below is stated about `s.declared`, which `collectAll_ok_iff` shows to be what the derives work on. -/

theorem declared_variants (s : RawSource) : s.declared.variants = s.variants.map RawVariant.declared := rfl

/-- one collected variant per written variant, in declaration order, with the written identifier -/
theorem source_idents (s : RawSource) : s.declared.variants.map (·.ident) = s.variants.map (·.ident) := by
  rw [declared_variants, List.map_map]
  rfl

theorem source_length (s : RawSource) : s.declared.variants.length = s.variants.length := by
  rw [declared_variants, List.length_map]

theorem source_enabled (s : RawSource) :
    s.declared.enabled = (s.variants.filter (fun r => !r.isDisabled)).map RawVariant.declared := by
  rw [EnumDef.enabled, declared_variants, List.filter_map]
  rfl

/-- the candidates are the written variants without `disabled` and without `default`, in declaration order -/
theorem source_candidates (s : RawSource) :
    s.declared.candidates = (s.variants.filter (fun r => !r.isDisabled && !r.attrs.flatten.any (· == .default))).map
      RawVariant.declared := by
  rw [EnumDef.candidates, declared_variants, List.filter_map]
  rfl

theorem source_mem (s : RawSource) (r : RawVariant) (hr : r ∈ s.variants) : r.declared ∈ s.declared.variants :=
  List.mem_map_of_mem hr

theorem source_nodup (s : RawSource) (hid : (s.variants.map (·.ident)).Nodup) :
    (s.declared.variants.map (·.ident)).Nodup := by rw [source_idents]; exact hid

theorem declared_disabled (r : RawVariant) : r.declared.disabled = r.isDisabled := rfl

/-! ### non-vacuity -/

def exampleSource : RawSource :=
  { hdr := { name := [69], attrs := [[.serializeAll "snake_case"], [.ci, .pfx [112]]] },
    variants := [
      { ident := [82, 101, 100], attrs := [[.serialize [114]], [.props [([107], .str [118])], .serialize [82, 82]]] },
      { ident := [79], fields := .tuple 1, attrs := [[.default]] },
      { ident := [88], attrs := [[.disabled, .toStr [120]]] } ] }

example : exampleSource.collectable = true := by decide
example : ∃ d, collectAll exampleSource = .ok d := ⟨_, (collectAll_ok_iff _ _).mpr ⟨by decide, rfl⟩⟩
example : exampleSource.declared.enabled.map (·.ident) = [[82, 101, 100], [79]] := by
  rw [source_enabled]; decide
/-- a source that does not collect: `to_string` twice on one variant -/
example : ({ hdr := {}, variants := [{ ident := [65], attrs := [[.toStr [97]], [.toStr [98]]] }] } : RawSource).collectable
    = false := by decide

end Strum
