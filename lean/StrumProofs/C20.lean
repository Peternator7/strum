import StrumProofs.C01
import StrumProofs.C17
import StrumProofs.Agree
import StrumProofs.Lemmas.Iter
/-
C20 — unsupported input gets a compile error, never a macro panic or silent acceptance.
Model: `validate` (StrumModel/Validate.lean).  Each rejection rule of the property is a predicate on the
raw item; `rejects_*` shows that every derive the rule applies to rejects the item; `never_panics` and
`accepts_domain` close the other two sides.
-/
namespace Strum

theorem ite_or {α : Sort _} {p q : Prop} [Decidable p] [Decidable q] (x y : α) :
    (if p then x else if q then x else y) = if p ∨ q then x else y := by
  by_cases p <;> by_cases q <;> simp [*]

theorem validate_eq (dv : Derive) (it : RawItem) :
    validate dv it =
      if it.kind ≠ .enum ∨ (dv.readsTypeProps = true ∧ typeErr it = true) ∨
        (dv.readsVariantProps = true ∧ anyVarAttrErr it = true) ∨ shapeErr dv it = true
      then .reject else .accept := by
  simp only [validate, bne_iff_ne, Bool.and_eq_true, ite_or]

theorem validate_reject_iff (dv : Derive) (it : RawItem) :
    validate dv it = .reject ↔
      (it.kind ≠ .enum ∨ (dv.readsTypeProps = true ∧ typeErr it = true) ∨
       (dv.readsVariantProps = true ∧ anyVarAttrErr it = true) ∨ shapeErr dv it = true) := by
  rw [validate_eq]
  split <;> simp [*]

/-- **The macro never panics** (after the F6 repair no code path of any derive can). -/
theorem never_panics (dv : Derive) (it : RawItem) : validate dv it ≠ .panic := by
  rw [validate_eq]
  split <;> nofun

/-- **In-domain input is accepted**: an enum with well-formed attributes in the derive's shape. -/
theorem accepts_domain (dv : Derive) (it : RawItem) (hk : it.kind = .enum)
    (ht : dv.readsTypeProps = true → typeErr it = false)
    (hv : dv.readsVariantProps = true → anyVarAttrErr it = false) (hs : shapeErr dv it = false) :
    validate dv it = .accept := by
  rw [validate_eq, if_neg]
  rintro (h | ⟨h1, h2⟩ | ⟨h1, h2⟩ | h)
  · exact h hk
  · rw [ht h1] at h2
    cases h2
  · rw [hv h1] at h2
    cases h2
  · rw [hs] at h
    cases h

/-- R1: a struct or a union -/
theorem rejects_non_enum (dv : Derive) (it : RawItem) (h : it.kind ≠ .enum) : validate dv it = .reject :=
  (validate_reject_iff dv it).2 (Or.inl h)

/-- R4 (enum level) and R8: a repeated single-use enum attribute, or an unknown `serialize_all` style -/
theorem rejects_enum_attr (dv : Derive) (hdv : dv.readsTypeProps = true) (it : RawItem)
    (h : (∃ a ∈ it.enumAttrs, 2 ≤ countP (EnumAttr.sameKind a) it.enumAttrs) ∨ EnumAttr.serializeAll false ∈ it.enumAttrs ∨
         2 ≤ countP (· == DiscAttr.name) it.discAttrs ∨ 2 ≤ countP (· == DiscAttr.vis) it.discAttrs) :
    validate dv it = .reject := by
  apply (validate_reject_iff dv it).2
  refine Or.inr (Or.inl ⟨hdv, ?_⟩)
  unfold typeErr
  simp only [Bool.or_eq_true, List.any_eq_true, decide_eq_true_eq]
  rcases h with ⟨a, ha, hc⟩ | h | h | h
  · exact Or.inl (Or.inl (Or.inr ⟨a, ha, hc⟩))
  · exact Or.inl (Or.inl (Or.inl ⟨_, h, by simp⟩))
  · exact Or.inl (Or.inr h)
  · exact Or.inr h

/-- R4 (variant level): a single-use variant attribute given twice, on any variant (disabled or not) -/
theorem rejects_variant_attr (dv : Derive) (hdv : dv.readsVariantProps = true) (it : RawItem)
    (h : ∃ attrs ∈ it.varAttrs, ∃ a ∈ attrs, a.singleUse = true ∧ 2 ≤ countP (VarAttr.sameKind a) attrs) :
    validate dv it = .reject := by
  apply (validate_reject_iff dv it).2
  refine Or.inr (Or.inr (Or.inl ⟨hdv, ?_⟩))
  obtain ⟨attrs, hm, a, ha, hs, hc⟩ := h
  unfold anyVarAttrErr varAttrErr
  simp only [List.any_eq_true, Bool.and_eq_true, decide_eq_true_eq]
  exact ⟨attrs, hm, a, ha, hs, hc⟩

theorem shape_rejects (dv : Derive) (it : RawItem) (h : shapeErr dv it = true) : validate dv it = .reject :=
  (validate_reject_iff dv it).2 (Or.inr (Or.inr (Or.inr h)))

/-- R3: a lifetime parameter, for EnumIter / FromRepr / EnumTable -/
theorem rejects_lifetime (dv : Derive) (hdv : dv = .enumIter ∨ dv = .fromRepr ∨ dv = .enumTable) (it : RawItem)
    (h : 0 < it.lifetimes) : validate dv it = .reject := by
  apply shape_rejects
  rcases hdv with rfl | rfl | rfl <;> simp [shapeErr, h]

/-- R2: a data-carrying variant, for VariantArray (any variant) -/
theorem rejects_data_variant_array (it : RawItem) (v : Variant) (hv : v ∈ it.d.variants) (hf : v.fields ≠ .unit) :
    validate .variantArray it = .reject := by
  apply shape_rejects
  rw [shapeErr, Option.isNone_iff_eq_none]
  exact variantArray_eq_none_iff.2 ⟨v, hv, hf⟩

/-- R2: an enabled data-carrying variant, for EnumTable -/
theorem rejects_data_variant_table (it : RawItem) (v : Variant) (hv : v ∈ it.d.variants) (hen : v.disabled = false)
    (hf : v.fields ≠ .unit) : validate .enumTable it = .reject := by
  apply shape_rejects
  have : it.d.enabled.any (fun v => v.fields != .unit) = true :=
    List.any_eq_true.2 ⟨v, mem_enabled.2 ⟨hv, hen⟩, bne_iff_ne.2 hf⟩
  simp [shapeErr, genTable, this, isOkE]

/-- R4 (field level): `default_with` twice on a named field of a candidate variant, for EnumString -/
theorem rejects_field_default_with (it : RawItem) (h : fieldDwErr it = true) : validate .enumString it = .reject :=
  shape_rejects _ _ (by rw [shapeErr, h, Bool.or_true])

/-- R9: only one of `parse_err_ty` / `parse_err_fn`, for EnumString -/
theorem rejects_half_parse_err (it : RawItem) (h : parseErrHalf it = true) : validate .enumString it = .reject :=
  shape_rejects _ _ (by rw [shapeErr, h, Bool.true_or, Bool.true_or])

/-- R5 / R6: two enabled default variants, or a default variant without exactly one field, for EnumString -/
theorem rejects_defaults (it : RawItem)
    (h : 2 ≤ it.d.defaults.length ∨ ∃ v ∈ it.d.defaults, v.fields.arity ≠ 1) : validate .enumString it = .reject := by
  apply shape_rejects
  obtain ⟨e, he⟩ := genFromStr_error_of_defaults (d := { it.d with usePhf := false }) h
  simp [shapeErr, he, isOkE]

theorem genNames_error_of_arm (d : EnumDef) (dv : NameDerive) (v : Variant) (hv : v ∈ d.variants)
    (hen : v.disabled = false) (he : ∃ e, armOf d dv v = .error e) : (!isOkE (genNames d dv)) = true := by
  cases hg : genNames d dv with
  | error e => rfl
  | ok arms =>
    have ⟨b, _, hb⟩ := (mapExcept_ok_lookup _ _ _ hg).2 v (mem_enabled.2 ⟨hv, hen⟩)
    have ⟨e, he⟩ := he
    rw [he] at hb
    cases hb

/-- R6: `transparent` on an enabled variant without exactly one field, for Display / AsRefStr / IntoStaticStr / AsStaticStr -/
theorem rejects_transparent_shape (dv : Derive)
    (hdv : dv = .display ∨ dv = .asRefStr ∨ dv = .intoStaticStr ∨ dv = .asStaticStr) (it : RawItem)
    (v : Variant) (hv : v ∈ it.d.variants) (hen : v.disabled = false) (ht : v.transparent = true)
    (ha : v.fields.arity ≠ 1) : validate dv it = .reject := by
  apply shape_rejects
  rcases hdv with rfl | rfl | rfl | rfl
  · exact genNames_error_of_arm it.d .display v hv hen
      ⟨_, by rw [armOf, displayArm_forwarding it.d v (.inl ht), if_neg ha]⟩
  all_goals
    exact genNames_error_of_arm it.d .asRef v hv hen
      ⟨_, show asRefArm it.d v = _ by rw [asRefArm, if_pos ht, if_neg ha]⟩

/-- R6: `default` (without to_string) on an enabled variant without exactly one field, for Display -/
theorem rejects_default_shape_display (it : RawItem) (v : Variant) (hv : v ∈ it.d.variants) (hen : v.disabled = false)
    (ht : v.transparent = false) (hd : v.isDefault = true) (hts : v.toStr = none) (ha : v.fields.arity ≠ 1) :
    validate .display it = .reject :=
  shape_rejects .display it <| genNames_error_of_arm it.d .display v hv hen
    ⟨.defaultShape, by rw [armOf, displayArm_forwarding it.d v (.inr (by rw [hd, hts]; rfl)), if_neg ha, ht]; rfl⟩

/-- R7: placeholders on an enabled unit variant, for Display -/
theorem rejects_unit_placeholder (it : RawItem) (v : Variant) (hv : v ∈ it.d.variants) (hen : v.disabled = false)
    (hf : v.fields = .unit) (ht : v.transparent = false) (hd : v.isDefault = false) (used : List Bytes)
    (hc : captureFormatStrings (canonical it.d v) = .ok used) (hne : used ≠ []) :
    validate .display it = .reject :=
  shape_rejects .display it <| genNames_error_of_arm it.d .display v hv hen
    ⟨_, unit_placeholder_rejected it.d v hf ht hd used hc hne⟩

/-- R10: a property literal that is not a string, integer or bool on an enabled variant, for EnumProperty -/
theorem rejects_prop_literal (it : RawItem) (h : badPropLit it = true) : validate .enumProperty it = .reject :=
  shape_rejects _ _ h

/-- which derives consume type-level / variant-level attributes (the applicability matrix) -/
theorem reads_type_props_iff (dv : Derive) :
    dv.readsTypeProps = true ↔ dv ≠ .fromRepr ∧ dv ≠ .enumIs ∧ dv ≠ .enumTryAs ∧ dv ≠ .enumTable := by
  cases dv <;> simp [Derive.readsTypeProps]

theorem reads_variant_props_iff (dv : Derive) :
    dv.readsVariantProps = true ↔ dv ≠ .variantArray ∧ dv ≠ .enumDiscriminants := by
  cases dv <;> simp [Derive.readsVariantProps]

/-! ### regression witnesses for F6 / F7 (pinned behaviour) -/
def f6Item : RawItem :=
  { kind := .enum, lifetimes := 0, enumAttrs := [], discAttrs := [], varAttrs := [[.props [.float]]], fieldDw := [[]],
    d := { variants := [{ ident := [65] }] } }
def f7Item : RawItem :=
  { kind := .enum, lifetimes := 0, enumAttrs := [], discAttrs := [], varAttrs := [[.disabled, .disabled], []], fieldDw := [[], []],
    d := { variants := [{ ident := [65], disabled := true }, { ident := [66] }] } }

theorem pinned_prop_literal_panics : validatePinned .enumProperty f6Item = .panic := by decide
theorem pinned_enum_is_swallows : validatePinned .enumIs f7Item = .accept ∧ validatePinned .enumTryAs f7Item = .accept := by decide
example : validate .enumProperty f6Item = .reject := by decide
example : validate .enumIs f7Item = .reject ∧ validate .enumTryAs f7Item = .reject := by decide
/-- a concrete in-domain item for `accepts_domain` -/
example : validate .enumString { f7Item with varAttrs := [[.disabled], []] } = .accept := by decide


/-! ### the rule × derive matrix as one statement -/

inductive Rule
  | nonEnum            -- R1 struct / union
  | dataVariant        -- R2 data-carrying variant
  | lifetime           -- R3 lifetime parameter
  | repeatedEnumAttr   -- R4 repeated single-use attribute, enum level (incl. strum_discriminants name / vis)
  | repeatedVarAttr    -- R4 repeated single-use attribute, variant level
  | repeatedFieldAttr  -- R4 repeated default_with on a named field
  | twoDefaults        -- R5
  | defaultShape       -- R6 default on a variant without exactly one field
  | transparentShape   -- R6 transparent on a variant without exactly one field
  | unitPlaceholder    -- R7
  | unknownStyle       -- R8
  | halfParseErr       -- R9
  | propLiteral        -- R10
  deriving DecidableEq, Repr

/-- which derives a rule applies to: those that consume the attribute or shape concerned -/
def applies : Rule → Derive → Bool
  | .nonEnum, _ => true
  | .dataVariant, dv => dv == .variantArray || dv == .enumTable
  | .lifetime, dv => dv == .enumIter || dv == .fromRepr || dv == .enumTable
  | .repeatedEnumAttr, dv => dv.readsTypeProps
  | .unknownStyle, dv => dv.readsTypeProps
  | .repeatedVarAttr, dv => dv.readsVariantProps
  | .repeatedFieldAttr, dv => dv == .enumString
  | .twoDefaults, dv => dv == .enumString
  | .halfParseErr, dv => dv == .enumString
  | .defaultShape, dv => dv == .enumString || dv == .display
  | .transparentShape, dv => dv == .display || dv == .asRefStr || dv == .intoStaticStr || dv == .asStaticStr
  | .unitPlaceholder, dv => dv == .display
  | .propLiteral, dv => dv == .enumProperty

/-- what it means for an item to fall under a rule (for the derive in question) -/
def RuleHolds : Rule → Derive → RawItem → Prop
  | .nonEnum, _, it => it.kind ≠ .enum
  | .dataVariant, dv, it =>
    if dv = .variantArray then ∃ v ∈ it.d.variants, v.fields ≠ .unit
    else ∃ v ∈ it.d.variants, v.disabled = false ∧ v.fields ≠ .unit
  | .lifetime, _, it => 0 < it.lifetimes
  | .repeatedEnumAttr, _, it =>
    (∃ a ∈ it.enumAttrs, 2 ≤ countP (EnumAttr.sameKind a) it.enumAttrs) ∨
    2 ≤ countP (· == DiscAttr.name) it.discAttrs ∨ 2 ≤ countP (· == DiscAttr.vis) it.discAttrs
  | .unknownStyle, _, it => EnumAttr.serializeAll false ∈ it.enumAttrs
  | .repeatedVarAttr, _, it => ∃ attrs ∈ it.varAttrs, ∃ a ∈ attrs, a.singleUse = true ∧ 2 ≤ countP (VarAttr.sameKind a) attrs
  | .repeatedFieldAttr, _, it => fieldDwErr it = true
  | .twoDefaults, _, it => 2 ≤ it.d.defaults.length
  | .halfParseErr, _, it => parseErrHalf it = true
  | .defaultShape, dv, it =>
    if dv = .enumString then ∃ v ∈ it.d.defaults, v.fields.arity ≠ 1
    else ∃ v ∈ it.d.variants, v.disabled = false ∧ v.transparent = false ∧ v.isDefault = true ∧ v.toStr = none ∧ v.fields.arity ≠ 1
  | .transparentShape, _, it => ∃ v ∈ it.d.variants, v.disabled = false ∧ v.transparent = true ∧ v.fields.arity ≠ 1
  | .unitPlaceholder, _, it =>
    ∃ v ∈ it.d.variants, v.disabled = false ∧ v.fields = .unit ∧ v.transparent = false ∧ v.isDefault = false ∧
      ∃ used, captureFormatStrings (canonical it.d v) = .ok used ∧ used ≠ []
  | .propLiteral, _, it => badPropLit it = true

/-- **Every rejection rule, instantiated on every derive it applies to, yields a compile error.** -/
theorem rejects (r : Rule) (dv : Derive) (ha : applies r dv = true) (it : RawItem) (hr : RuleHolds r dv it) :
    validate dv it = .reject := by
  cases r with
  | nonEnum => exact rejects_non_enum dv it hr
  | dataVariant =>
    simp only [applies, Bool.or_eq_true, beq_iff_eq] at ha
    rcases ha with rfl | rfl
    · have ⟨v, hv, hf⟩ := hr
      exact rejects_data_variant_array it v hv hf
    · have ⟨v, hv, hen, hf⟩ := hr
      exact rejects_data_variant_table it v hv hen hf
  | lifetime =>
    simp only [applies, Bool.or_eq_true, beq_iff_eq, or_assoc] at ha
    exact rejects_lifetime dv ha it hr
  | repeatedEnumAttr => exact rejects_enum_attr dv ha it (hr.imp_right .inr)
  | unknownStyle => exact rejects_enum_attr dv ha it (.inr (.inl hr))
  | repeatedVarAttr => exact rejects_variant_attr dv ha it hr
  | repeatedFieldAttr => exact eq_of_beq ha ▸ rejects_field_default_with it hr
  | twoDefaults => exact eq_of_beq ha ▸ rejects_defaults it (.inl hr)
  | halfParseErr => exact eq_of_beq ha ▸ rejects_half_parse_err it hr
  | defaultShape =>
    simp only [applies, Bool.or_eq_true, beq_iff_eq] at ha
    rcases ha with rfl | rfl
    · exact rejects_defaults it (.inr hr)
    · have ⟨v, hv, hen, ht, hd, hts, har⟩ := hr
      exact rejects_default_shape_display it v hv hen ht hd hts har
  | transparentShape =>
    simp only [applies, Bool.or_eq_true, beq_iff_eq, or_assoc] at ha
    have ⟨v, hv, hen, ht, har⟩ := hr
    exact rejects_transparent_shape dv ha it v hv hen ht har
  | unitPlaceholder =>
    have ⟨v, hv, hen, hf, ht, hd, used, hc, hne⟩ := hr
    exact eq_of_beq ha ▸ rejects_unit_placeholder it v hv hen hf ht hd used hc hne
  | propLiteral => exact eq_of_beq ha ▸ rejects_prop_literal it hr

end Strum
