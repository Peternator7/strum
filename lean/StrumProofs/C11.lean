import StrumProofs.C01
import StrumProofs.C03
/-
C11 — default and transparent variants capture and forward their inner value verbatim.
The inner field's own `Display` / `AsRef<str>` / `From` impl is a *parameter* (`inner`): the theorems hold
for every function, which is the strongest form of "verbatim".
-/
namespace Strum

/-- **Capture.**  An input that is no candidate's spelling comes back inside the default variant,
    holding exactly that input (`s.into()`). -/
theorem default_captures (d : EnumDef) (hphf : d.usePhf = false) (p : FromStrImpl)
    (hg : genFromStr d = .ok p) (s : Bytes) (hrej : ∀ v ∈ d.candidates, accepts d v s = false)
    (v : Variant) (hd : d.defaults = [v]) :
    parse d s = .ok (.ok v.ident [.captured s]) := by
  rw [parse_other d hphf p hg s hrej, fall_of_default hg hd]
  rfl

/-- the Display arm of a default variant without `to_string`, and of a transparent variant, hands the
    caller's formatter to the inner field -/
theorem displayArm_forward (d : EnumDef) (v : Variant) (a : NameArm) (h : displayArm d v = .ok a)
    (hf : v.transparent = true ∨ (v.isDefault = true ∧ v.toStr = none)) : a = .forward := by
  rw [displayArm_forwarding d v (hf.imp_right fun ⟨hd, hts⟩ => by rw [hd, hts]; rfl)] at h
  split at h
  · cases h; rfl
  · cases h

theorem asRefArm_forward (d : EnumDef) (v : Variant) (a : NameArm) (h : asRefArm d v = .ok a)
    (ht : v.transparent = true) : a = .forward := by
  rw [asRefArm, if_pos ht] at h
  split at h
  · cases h; rfl
  · cases h

/-- **Forwarding, Display.**  `format!(spec, v)` is `format!(spec, inner)` for every spec: the same
    formatter (width, fill, alignment, precision, flags) reaches the inner value. -/
theorem display_forwards (d : EnumDef) (hid : (d.variants.map (·.ident)).Nodup)
    (v : Variant) (hv : v ∈ d.variants) (hen : v.disabled = false)
    (hf : v.transparent = true ∨ (v.isDefault = true ∧ v.toStr = none))
    (inner : FmtSpec → Bytes) (sp : FmtSpec) (o : ShowOut) (h : displayOut d v inner sp = .ok o) :
    o = .text (inner sp) := by
  have ⟨a, ha, ho⟩ := displayOut_ok d hid v hv hen inner sp o h
  cases displayArm_forward d v a ha hf
  exact ho

/-- **Forwarding, AsRefStr / AsStaticStr / IntoStaticStr / into_str.**  A transparent variant returns
    exactly what its inner field returns. -/
theorem str_forwards (d : EnumDef) (hid : (d.variants.map (·.ident)).Nodup)
    (v : Variant) (hv : v ∈ d.variants) (hen : v.disabled = false) (ht : v.transparent = true)
    (dv : NameDerive) (hdv : dv ≠ .display ∧ dv ≠ .toStringDeprecated)
    (inner : Bytes) (o : ShowOut) (h : strOut d dv v inner = .ok o) : o = .text inner := by
  have ⟨a, ha, ho⟩ := strOut_ok d hid v hv hen dv inner o h
  have ha : asRefArm d v = .ok a := by
    cases dv
    case display => exact absurd rfl hdv.1
    case toStringDeprecated => exact absurd rfl hdv.2
    all_goals exact ha
  cases asRefArm_forward d v a ha ht
  exact ho

theorem pad_default (s : Bytes) : pad {} s = s := rfl

/-- **`E::from_str(s)?.to_string() == s`** for every `s` that is no other variant's spelling, when the
    default variant's inner type prints a string as itself (`String`, `Box<str>`: `inner spec = pad spec s`). -/
theorem default_roundtrip (d : EnumDef) (hphf : d.usePhf = false) (p : FromStrImpl)
    (hg : genFromStr d = .ok p) (hid : (d.variants.map (·.ident)).Nodup)
    (s : Bytes) (hrej : ∀ v ∈ d.candidates, accepts d v s = false)
    (v : Variant) (hd : d.defaults = [v]) (hts : v.toStr = none)
    (o : ShowOut) (h : displayOut d v (fun sp => pad sp s) {} = .ok o) :
    parse d s = .ok (.ok v.ident [.captured s]) ∧ o = .text s := by
  have ⟨hv, hen, hdf⟩ := mem_defaults.1 (hd ▸ List.mem_singleton_self v)
  exact ⟨default_captures d hphf p hg s hrej v hd, display_forwards d hid v hv hen (.inr ⟨hdf, hts⟩) _ {} o h⟩

/-! non-vacuity -/
def exampleFwd : EnumDef :=
  { variants := [{ ident := [65] }, { ident := [79], isDefault := true, fields := .tuple 1 },
                 { ident := [84], transparent := true, fields := .named [([105], none)] }] }
example : displayOut exampleFwd { ident := [79], isDefault := true, fields := .tuple 1 } (fun sp => pad sp [120, 121]) {}
    = .ok (.text [120, 121]) := by rfl
example : strOut exampleFwd .asRef { ident := [84], transparent := true, fields := .named [([105], none)] } [122]
    = .ok (.text [122]) := by rfl

end Strum
