import StrumProofs.C01
/-
C16 — use_phf is a pure optimisation of EnumString.

Model (StrumModel/FromStr.lean, mirroring from_string.rs:121-170 after the F3 repair): with `use_phf`
each spelling becomes a phf key; a case-insensitive variant also gets its ASCII-lower and ASCII-upper
forms as keys (a key already inserted for the same variant is skipped) and keeps its guard arm;
`from_str` looks the input up in the map first, then runs the ordinary match, then the fall-through.
-/
namespace Strum

theorem mem_pushKey (keys : List Bytes) (k x : Bytes) : x ∈ pushKey keys k ↔ x ∈ keys ∨ x = k := by
  unfold pushKey
  split
  · next h => exact ⟨Or.inl, fun h' => h'.elim id fun e => e ▸ List.contains_iff_mem.1 h⟩
  · simp

theorem nodup_pushKey (keys : List Bytes) (k : Bytes) (h : keys.Nodup) : (pushKey keys k).Nodup := by
  unfold pushKey
  split
  · exact h
  · next hc =>
    rw [List.contains_iff_mem] at hc
    rw [List.nodup_append]
    exact ⟨h, List.nodup_cons.2 ⟨List.not_mem_nil, List.nodup_nil⟩, fun a ha b hb e => hc (List.mem_singleton.1 hb ▸ e ▸ ha)⟩

/-- the keys of a variant are its spellings, each followed for a case-insensitive variant by its two folded forms,
    with repetitions dropped -/
theorem phfKeysOfVariant_eq (d : EnumDef) (v : Variant) :
    phfKeysOfVariant d v =
      ((serializations d.style v).flatMap fun sp => if d.ciOf v then [sp, lowerAll sp, upperAll sp] else [sp]).foldl
        pushKey [] := by
  rw [List.foldl_flatMap, phfKeysOfVariant]
  cases d.ciOf v <;> rfl

theorem mem_foldl_pushKey (ks acc : List Bytes) (x : Bytes) : x ∈ ks.foldl pushKey acc ↔ x ∈ acc ∨ x ∈ ks := by
  induction ks generalizing acc with
  | nil => simp
  | cons k ks ih => rw [List.foldl_cons, ih, mem_pushKey, List.mem_cons, or_assoc]

theorem nodup_foldl_pushKey (ks acc : List Bytes) (h : acc.Nodup) : (ks.foldl pushKey acc).Nodup := by
  induction ks generalizing acc with
  | nil => exact h
  | cons k ks ih => exact ih _ (nodup_pushKey acc k h)

/-- every phf key of a variant is an input that variant accepts -/
theorem keys_accept (d : EnumDef) (v : Variant) (k : Bytes) (h : k ∈ phfKeysOfVariant d v) :
    accepts d v k = true := by
  rw [phfKeysOfVariant_eq, mem_foldl_pushKey, List.mem_flatMap] at h
  obtain ⟨sp, hsp, h⟩ := h.resolve_left List.not_mem_nil
  refine accepts_iff.2 ⟨sp, hsp, ?_⟩
  cases hc : d.ciOf v <;> simp only [hc, if_pos, Bool.false_eq_true, if_false, List.mem_cons, List.not_mem_nil, or_false] at h ⊢
  · exact beq_iff_eq.2 h
  · rcases h with rfl | rfl | rfl
    · exact eqIgnoreAsciiCase_refl _
    · exact eqIgnoreAsciiCase_lowerAll _
    · exact eqIgnoreAsciiCase_upperAll _

theorem spelling_is_key (d : EnumDef) (v : Variant) (sp : Bytes) (h : sp ∈ serializations d.style v) :
    sp ∈ phfKeysOfVariant d v := by
  rw [phfKeysOfVariant_eq, mem_foldl_pushKey, List.mem_flatMap]
  refine Or.inr ⟨sp, h, ?_⟩
  split <;> simp

theorem keys_nodup_variant (d : EnumDef) (v : Variant) : (phfKeysOfVariant d v).Nodup := by
  rw [phfKeysOfVariant_eq]
  exact nodup_foldl_pushKey _ _ List.nodup_nil

/-- all phf keys in emission order -/
def allKeys (d : EnumDef) (vs : List Variant) : List Bytes := vs.flatMap (phfKeysOfVariant d)

theorem phf_arms_keys (d : EnumDef) (h : d.usePhf = true) (vs : List Variant) :
    (vs.flatMap (phfOfVariant d)).map armKey = allKeys d vs := by
  rw [List.map_flatMap]
  congr 1
  funext v
  rw [phfOfVariant, if_pos h, List.map_map]
  exact List.map_id _

theorem hasDupKey_false_iff (l : List Bytes) : hasDupKey l = false ↔ l.Nodup := by
  induction l with
  | nil => simp [hasDupKey]
  | cons a as ih => simp [hasDupKey, ih]

theorem allKeys_nodup (d : EnumDef) (vs : List Variant) (hnd : vs.Nodup)
    (hno : ∀ s, ∀ v ∈ vs, ∀ w ∈ vs, accepts d v s = true → accepts d w s = true → v = w) :
    (allKeys d vs).Nodup := by
  induction vs with
  | nil => exact List.nodup_nil
  | cons v vs ih =>
    rw [List.nodup_cons] at hnd
    rw [allKeys, List.flatMap_cons, List.nodup_append]
    refine ⟨keys_nodup_variant d v,
      ih hnd.2 fun s a ha b hb => hno s a (List.mem_cons_of_mem _ ha) b (List.mem_cons_of_mem _ hb), ?_⟩
    -- a key shared with a later variant `w` is accepted by both, so `w = v`, which occurs only once
    rintro k hk _ hk' rfl
    obtain ⟨w, hw, hkw⟩ := List.mem_flatMap.1 hk'
    have := hno k v List.mem_cons_self w (List.mem_cons_of_mem _ hw) (keys_accept d v k hk) (keys_accept d w k hkw)
    exact hnd.1 (this ▸ hw)

/-- under non-overlap no two phf keys coincide (variants pairwise different, as rustc demands) -/
theorem no_dup_key (d : EnumDef) (hphf : d.usePhf = true) (hno : NoOverlap d) (hnd : d.candidates.Nodup) :
    hasDupKey ((d.candidates.flatMap (phfOfVariant d)).map armKey) = false := by
  rw [hasDupKey_false_iff, phf_arms_keys d hphf]
  exact allKeys_nodup d d.candidates hnd hno

/-- **`use_phf` never breaks compilation**: under non-overlap no two phf keys coincide, so `phf_map!`
    accepts the table (variants pairwise different, as rustc demands). -/
theorem phf_compiles (d : EnumDef) (hphf : d.usePhf = true) (hno : NoOverlap d) (hnd : d.candidates.Nodup) :
    ∀ e, genFromStr d = .error e → e ≠ .phfDupKey := by
  intro e he
  -- the key check passes, so the error comes from the choice of the fall-through
  rw [genFromStr_eq, no_dup_key d hphf hno hnd, if_neg Bool.false_ne_true, genFall] at he
  split at he
  · cases he
  · split at he <;> cases he
    exact GenErr.noConfusion
  · cases he
    exact GenErr.noConfusion

/-- with `use_phf`, when at most one candidate accepts the input: a key hit belongs to that candidate, and after a miss
    the guards that are left decide like `accepts` (a case-sensitive variant's spellings are all keys) -/
theorem find?_phf (d : EnumDef) (hphf : d.usePhf = true) (s : Bytes)
    (hu : ∀ v ∈ d.candidates, ∀ w ∈ d.candidates, accepts d v s = true → accepts d w s = true → v = w) :
    (d.candidates.find? fun v => d.usePhf && (phfKeysOfVariant d v).contains s).or
        (d.candidates.find? fun v => (d.ciOf v || !d.usePhf) && accepts d v s) =
      d.candidates.find? fun v => accepts d v s := by
  simp only [hphf, Bool.true_and, Bool.not_true, Bool.or_false]
  rcases find?_cases (fun v => (phfKeysOfVariant d v).contains s) d.candidates with ⟨v, hv, hk, hf⟩ | ⟨hn, hf⟩
  · have ha := keys_accept d v s (List.contains_iff_mem.1 hk)
    rw [hf, Option.some_or, find?_unique hv ha fun w hw haw => hu w hw v hv haw ha]
  · rw [hf, Option.none_or]
    refine find?_congr fun v hv => ?_
    cases hc : d.ciOf v
    · rw [Bool.false_and, accepts_cs hc]
      exact (Bool.eq_false_iff.2 fun h =>
        Bool.eq_false_iff.1 (hn v hv) (List.contains_iff_mem.2 (spelling_is_key d v s (List.contains_iff_mem.1 h)))).symm
    · rfl

/-- **With `use_phf` the parser computes the same function of (definition, input) as without.**
    Stated against the same declarative right-hand side as `parse_first_match` (C01). -/
theorem parse_first_match_phf (d : EnumDef) (hphf : d.usePhf = true) (hno : NoOverlap d)
    (p : FromStrImpl) (hg : genFromStr d = .ok p) (s : Bytes) :
    parse d s = .ok (match d.candidates.find? (fun v => accepts d v s) with
                     | some v => .ok v.ident (payloadOf v)
                     | none => p.fall.eval s) := by
  rw [parse_eq d p hg s, find?_phf d hphf s (hno s)]
  rfl

/-- **phf parser = plain parser, for every input.** -/
theorem phf_same_result (d : EnumDef) (hno : NoOverlap { d with usePhf := false })
    (p1 p0 : FromStrImpl) (h1 : genFromStr { d with usePhf := true } = .ok p1)
    (h0 : genFromStr { d with usePhf := false } = .ok p0) (s : Bytes) :
    parse { d with usePhf := true } s = parse { d with usePhf := false } s := by
  have hno1 : NoOverlap { d with usePhf := true } := hno
  -- `genFall` does not read `usePhf`
  have hf : Except.ok (p1.fall, p1.errTy) = Except.ok (p0.fall, p0.errTy) :=
    (genFromStr_ok h1).2.2.symm.trans (genFromStr_ok h0).2.2
  rw [parse_first_match_phf _ rfl hno1 p1 h1 s, parse_first_match _ rfl p0 h0 s,
    show p1.fall = p0.fall from congrArg Prod.fst (Except.ok.inj hf)]
  rfl

/-- the generator succeeds with `use_phf` whenever it succeeds without (same error checks, and the
    key table has no duplicate) -/
theorem phf_gen_ok (d : EnumDef) (hno : NoOverlap { d with usePhf := false })
    (hnd : d.candidates.Nodup) (p0 : FromStrImpl) (h0 : genFromStr { d with usePhf := false } = .ok p0) :
    ∃ p1, genFromStr { d with usePhf := true } = .ok p1 := by
  -- `genFall` does not read `usePhf`
  have hf : genFall { d with usePhf := true } = .ok (p0.fall, p0.errTy) := (genFromStr_ok h0).2.2
  rw [genFromStr_eq, hf]
  exact ⟨_, if_neg (ne_true_of_eq_false (no_dup_key { d with usePhf := true } rfl hno hnd))⟩

/-! non-vacuity: the F3 witness compiles and parses identically -/
def f3Enum : EnumDef :=
  { variants := [{ ident := [114, 101, 100], ci := some true }, { ident := [66, 108, 117, 101] }] }
example : noOverlapB f3Enum = true := by decide
example : ∃ p, genFromStr { f3Enum with usePhf := true } = .ok p := ⟨_, rfl⟩
example : parse { f3Enum with usePhf := true } [82, 69, 68] = parse f3Enum [82, 69, 68] := by rfl

/-- with or without `use_phf`, the parser computes the same declarative function -/
theorem parse_first_match_any (d : EnumDef) (hno : NoOverlap d) (p : FromStrImpl) (hg : genFromStr d = .ok p) (s : Bytes) :
    parse d s = .ok (match d.candidates.find? (fun v => accepts d v s) with
                     | some v => .ok v.ident (payloadOf v)
                     | none => p.fall.eval s) := by
  cases h : d.usePhf
  · exact parse_first_match d h p hg s
  · exact parse_first_match_phf d h hno p hg s

/-- **C01's accepting direction holds for `use_phf` enums as well** -/
theorem parse_accepting_any (d : EnumDef) (hno : NoOverlap d) (p : FromStrImpl) (hg : genFromStr d = .ok p)
    (s : Bytes) (v : Variant) (hv : v ∈ d.candidates) (ha : accepts d v s = true) :
    parse d s = .ok (.ok v.ident (payloadOf v)) := by
  rw [parse_first_match_any d hno p hg s, find?_unique hv ha fun w hw haw => hno s w hw v hv haw ha]

/-- **and the rejecting direction**: default variant capturing the input, or the (standard / custom) error -/
theorem parse_other_any (d : EnumDef) (hno : NoOverlap d) (p : FromStrImpl) (hg : genFromStr d = .ok p) (s : Bytes)
    (h : ∀ v ∈ d.candidates, accepts d v s = false) : parse d s = .ok (p.fall.eval s) := by
  rw [parse_first_match_any d hno p hg s, List.find?_eq_none.2 fun v hv => Bool.eq_false_iff.1 (h v hv)]

end Strum
