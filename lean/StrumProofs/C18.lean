import StrumProofs.C01
/-
C18 — a custom parse error is the user's function applied to the exact rejected input.
-/
namespace Strum

/-- **Rejected input ⇒ `Err(f(s))` with `f` called exactly once, on the caller's `s` itself.** -/
theorem custom_err (d : EnumDef) (hphf : d.usePhf = false) (p : FromStrImpl) (hg : genFromStr d = .ok p)
    (hc : d.customErr = true) (hnd : d.defaults = []) (s : Bytes)
    (hrej : ∀ v ∈ d.candidates, accepts d v s = false) :
    parse d s = .ok (.errCustom s) ∧ (ParseOut.errCustom s).callLog = [s] := by
  refine ⟨?_, rfl⟩
  rw [parse_other d hphf p hg s hrej, fall_of_no_default hg hnd, hc]
  rfl

/-- **Accepted input ⇒ `f` is not invoked.** -/
theorem no_call_on_success (d : EnumDef) (hphf : d.usePhf = false) (p : FromStrImpl)
    (hg : genFromStr d = .ok p) (s : Bytes) (v : Variant) (hv : v ∈ d.candidates)
    (ha : accepts d v s = true) (out : ParseOut) (h : parse d s = .ok out) : out.callLog = [] := by
  rcases parse_cases d hphf p hg s with ⟨w, _, _, hp⟩ | ⟨hn, _⟩
  · cases hp.symm.trans h
    rfl
  · rw [hn v hv] at ha
    cases ha

/-- **Without the attributes the error is always `ParseError::VariantNotFound`.** -/
theorem std_err (d : EnumDef) (hphf : d.usePhf = false) (p : FromStrImpl) (hg : genFromStr d = .ok p)
    (hc : d.customErr = false) (hnd : d.defaults = []) (s : Bytes)
    (hrej : ∀ v ∈ d.candidates, accepts d v s = false) : parse d s = .ok .errStd := by
  rw [parse_other d hphf p hg s hrej, fall_of_no_default hg hnd, hc]
  rfl

/-- the error is never the custom one unless the attributes are present -/
theorem custom_only_if_declared (d : EnumDef) (hphf : d.usePhf = false) (p : FromStrImpl)
    (hg : genFromStr d = .ok p) (s a : Bytes) (h : parse d s = .ok (.errCustom a)) :
    d.customErr = true ∧ a = s := by
  have := ((parse_err_iff d hphf p hg s).2 a).1 h
  exact ⟨this.2.2.1, this.2.2.2⟩

/-- **`FromStr::Err` / `TryFrom::Error`**: the declared type, unless there is a default variant
    (then parsing cannot fail and the macro reverts to `strum::ParseError`). -/
theorem err_types (d : EnumDef) (hphf : d.usePhf = false) (p : FromStrImpl) (hg : genFromStr d = .ok p) :
    p.errTy = if d.customErr = true ∧ d.defaults = [] then .custom else .strumParseError :=
  (genFall_ok (genFromStr_ok hg).2.2).2

/-! non-vacuity -/
def exampleErrEnum : EnumDef :=
  { customErr := true, ci := true, variants := [{ ident := [65] }, { ident := [66], ci := some false }] }
example : parse exampleErrEnum [98] = .ok (.errCustom [98]) := by rfl
example : parse exampleErrEnum [97] = .ok (.ok [65] []) := by rfl

end Strum
