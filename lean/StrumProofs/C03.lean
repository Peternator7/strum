import StrumProofs.Lemmas.Names
import StrumModel.Source
/-
C03 — all string-producing derives agree on one canonical name per variant.
-/
namespace Strum

/-- the longest serialize literal (in bytes; the last one among equally long ones); `none` when there is none -/
def longestSerialize (v : Variant) : Option Bytes := maxByKeyLast List.length v.serialize

/-- **Spec.** to_string literal, else longest serialize literal, else styled identifier; prefix prepended. -/
def canonical (d : EnumDef) (v : Variant) : Bytes :=
  (d.pfx.getD []) ++ (v.toStr.getD ((longestSerialize v).getD (convertCase d.style v.ident)))

/-- the chosen serialize literal is one of them and none is longer; with distinct lengths it is the
    unique longest (ties go to the last one, as in Rust's `max_by_key`) -/
theorem longest_spec (v : Variant) (x : Bytes) (h : longestSerialize v = some x) :
    x ∈ v.serialize ∧ ∀ y ∈ v.serialize, y.length ≤ x.length :=
  maxByKeyLast_spec List.length v.serialize x h

theorem longest_unique (v : Variant) (x : Bytes) (h : longestSerialize v = some x)
    (y : Bytes) (hy : y ∈ v.serialize) (hl : x.length ≤ y.length)
    (hd : ∀ a ∈ v.serialize, ∀ b ∈ v.serialize, a.length = b.length → a = b) : y = x := by
  obtain ⟨hx, hmax⟩ := longest_spec v x h
  exact hd y hy x hx (Nat.le_antisymm (hmax y hy) hl)

theorem longest_none_iff (v : Variant) : longestSerialize v = none ↔ v.serialize = [] :=
  maxByKeyLast_none _ _

/-- `get_preferred_name(case_style, prefix)` computes the canonical name -/
theorem preferredName_eq_canonical (d : EnumDef) (v : Variant) :
    preferredName d.style d.pfx v = canonical d v := by
  unfold preferredName canonical longestSerialize
  cases d.pfx <;> cases v.toStr <;> cases maxByKeyLast List.length v.serialize <;> rfl

/-- a name without placeholders: the macro's scanner finds no `{..}` -/
def NoPlaceholder (name : Bytes) : Prop := captureFormatStrings name = .ok []

/-- `displayArm` in its first regime: a transparent variant, and a default variant without `to_string`, hand the
    formatter to their single field -/
theorem displayArm_forwarding (d : EnumDef) (v : Variant)
    (hf : v.transparent = true ∨ (v.toStr.isNone && v.isDefault) = true) :
    displayArm d v = if v.fields.arity = 1 then .ok .forward
      else .error (if v.transparent then .transparentShape else .defaultShape) := by
  cases ht : v.transparent
  · have hd := hf.resolve_left (ht ▸ Bool.false_ne_true)
    simp only [displayArm, ht, hd, Bool.false_eq_true, ↓reduceIte]
  · simp only [displayArm, ht, ↓reduceIte]

/-- `displayArm` in its second regime: every other variant prints its canonical name, in which the macro's scanner
    has found the placeholders `used` -/
theorem displayArm_naming (d : EnumDef) (v : Variant) (ht : v.transparent = false)
    (hd : (v.toStr.isNone && v.isDefault) = false)
    (used : List Bytes) (hc : captureFormatStrings (canonical d v) = .ok used) :
    displayArm d v =
      match v.fields with
      | .named fs =>
        if (used.map (·.dropWhile isAsciiWs)).all isIdentLike then
          if used.isEmpty then .ok (.fixed (canonical d v))
          else .ok (.interp (canonical d v)
            ((fs.map (·.1)).filter (fun f => (used.map (·.dropWhile isAsciiWs)).contains f)))
        else .error .badIdent
      | .tuple n =>
        if used.any (·.isEmpty) then .error .emptyPlaceholder
        else if used.isEmpty then .ok (.fixed (canonical d v))
        else .ok (.interp (canonical d v) (positional n))
      | .unit => if used.isEmpty then .ok (.fixed (canonical d v)) else .error .unitPlaceholder := by
  simp only [displayArm, ht, hd, Bool.false_eq_true, ↓reduceIte, preferredName_eq_canonical, hc]
  cases v.fields <;> rfl

theorem displayArm_fixed (d : EnumDef) (v : Variant) (ht : v.transparent = false)
    (hd : (v.toStr.isNone && v.isDefault) = false) (hb : NoPlaceholder (canonical d v)) :
    displayArm d v = .ok (.fixed (canonical d v)) := by
  rw [displayArm_naming d v ht hd [] hb]
  cases v.fields <;> rfl

theorem asRefArm_fixed (d : EnumDef) (v : Variant) (ht : v.transparent = false) :
    asRefArm d v = .ok (.fixed (canonical d v)) := by
  simp only [asRefArm, ht, Bool.false_eq_true, ↓reduceIte, preferredName_eq_canonical]

theorem toStringArm_fixed (d : EnumDef) (v : Variant) (hd : v.isDefault = false) :
    toStringArm d v = .ok (.fixed (canonical d v)) := by
  simp only [toStringArm, hd, Bool.and_false, Bool.false_eq_true, ↓reduceIte, preferredName_eq_canonical]

theorem armOf_fixed (d : EnumDef) (v : Variant) (ht : v.transparent = false) (hd : v.isDefault = false)
    (hb : NoPlaceholder (canonical d v)) (dv : NameDerive) : armOf d dv v = .ok (.fixed (canonical d v)) := by
  cases dv
  case display => exact displayArm_fixed d v ht (by rw [hd, Bool.and_false]) hb
  case toStringDeprecated => exact toStringArm_fixed d v hd
  all_goals exact asRefArm_fixed d v ht

/-- **All derives agree.**  For every enabled variant that is neither default nor transparent and
    whose name has no placeholder, each string-producing derive that compiles returns exactly the
    canonical name (Display with an empty format spec; C17 covers non-empty specs). -/
theorem all_derives_agree (d : EnumDef) (hid : (d.variants.map (·.ident)).Nodup)
    (v : Variant) (hv : v ∈ d.variants) (hen : v.disabled = false)
    (ht : v.transparent = false) (hd : v.isDefault = false) (hb : NoPlaceholder (canonical d v))
    (dv : NameDerive) (arms : List (Bytes × NameArm)) (hg : genNames d dv = .ok arms)
    (inner : FmtSpec → Bytes) :
    showWith (lookupArm arms v.ident) inner false {} = .text (canonical d v) ∧
    (dv = .display → showWith (lookupArm arms v.ident) inner true {} = .text (canonical d v)) := by
  have ⟨a, ha, hl⟩ := genNames_lookup d dv arms hg hid v hv hen
  rw [armOf_fixed d v ht hd hb dv] at ha
  cases ha
  rw [hl]
  exact ⟨rfl, fun _ => rfl⟩

/-- each derive's output function, as the driver computes it -/
theorem strOut_canonical (d : EnumDef) (hid : (d.variants.map (·.ident)).Nodup)
    (v : Variant) (hv : v ∈ d.variants) (hen : v.disabled = false)
    (ht : v.transparent = false) (hd : v.isDefault = false) (hb : NoPlaceholder (canonical d v))
    (dv : NameDerive) (inner : Bytes) (o : ShowOut) (h : strOut d dv v inner = .ok o) :
    o = .text (canonical d v) := by
  have ⟨a, ha, ho⟩ := strOut_ok d hid v hv hen dv inner o h
  rw [armOf_fixed d v ht hd hb dv] at ha
  cases ha
  exact ho

theorem displayOut_fixed (d : EnumDef) (hid : (d.variants.map (·.ident)).Nodup)
    (v : Variant) (hv : v ∈ d.variants) (hen : v.disabled = false) (ht : v.transparent = false)
    (hd : (v.toStr.isNone && v.isDefault) = false) (hb : NoPlaceholder (canonical d v))
    (inner : FmtSpec → Bytes) (sp : FmtSpec) (o : ShowOut) (h : displayOut d v inner sp = .ok o) :
    o = .text (pad sp (canonical d v)) := by
  have ⟨a, ha, ho⟩ := displayOut_ok d hid v hv hen inner sp o h
  rw [displayArm_fixed d v ht hd hb] at ha
  cases ha
  exact ho

theorem displayOut_canonical (d : EnumDef) (hid : (d.variants.map (·.ident)).Nodup)
    (v : Variant) (hv : v ∈ d.variants) (hen : v.disabled = false)
    (ht : v.transparent = false) (hd : v.isDefault = false) (hb : NoPlaceholder (canonical d v))
    (inner : FmtSpec → Bytes) (o : ShowOut) (h : displayOut d v inner {} = .ok o) :
    o = .text (canonical d v) :=
  displayOut_fixed d hid v hv hen ht (by rw [hd, Bool.and_false]) hb inner {} o h

/-- **`VariantNames::VARIANTS[i]` is the canonical name of the i-th declared variant** (enabled or not). -/
theorem variant_names_at (d : EnumDef) (i : Nat) (h : i < d.variants.length) :
    (variantNames d)[i]'(by simpa [variantNames] using h) = canonical d d.variants[i] := by
  simp [variantNames, preferredName_eq_canonical]

theorem variant_names_length (d : EnumDef) : (variantNames d).length = d.variants.length := by
  simp [variantNames]

/-! non-vacuity -/
example : NoPlaceholder [82, 101, 100] := by unfold NoPlaceholder; rfl
example : canonical { pfx := some [112], style := some .snake }
    { ident := [82, 101, 100], serialize := [[97], [98, 98, 98], [99, 99]] } = [112, 98, 98, 98] := by decide
example : longestSerialize { ident := [], serialize := [[97, 97], [98, 98]] } = some [98, 98] := by decide

/-- **at source level**: the canonical name of a written variant is the enum's prefix (the LAST `prefix` item of the header,
    if any) followed by the variant's own `to_string` literal, else the longest of its own `serialize` literals, else its
    identifier in the header's style - nothing written on another variant enters -/
theorem source_canonical (s : RawSource) (r : RawVariant) :
    canonical s.declared r.declared =
      ((lastOf EItem.pfx? s.hdr.attrs.flatten).getD []) ++
        ((lastOf VItem.toStr? r.attrs.flatten).getD
          ((maxByKeyLast List.length (serializesOf r.attrs.flatten)).getD
            (convertCase ((lastOf EItem.style? s.hdr.attrs.flatten).bind parseStyle) r.ident))) := rfl

end Strum
