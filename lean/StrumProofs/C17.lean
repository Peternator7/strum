import StrumProofs.C03
import StrumProofs.Lemmas.Capture
/-
C17 — Display renders fixed names like a `str` and placeholders like `format!`.

`pad` (StrumModel/Fmt.lean) is the model of `Formatter::pad`; the rendering of placeholders is
`format_args!`'s and is compared against `format!` inside the Rust driver (DESIGN.md §6 C17).
-/
namespace Strum

/-- **A fixed name is formatted exactly as that `&str` would be**, whatever the variant's kind
    (unit, tuple or named): `format!(spec, v) = pad(spec, canonical name)` for every spec. -/
theorem fixed_name_padded (d : EnumDef) (hid : (d.variants.map (·.ident)).Nodup)
    (v : Variant) (hv : v ∈ d.variants) (hen : v.disabled = false)
    (ht : v.transparent = false) (hd : v.isDefault = false) (hb : NoPlaceholder (canonical d v))
    (inner : FmtSpec → Bytes) (sp : FmtSpec) (o : ShowOut) (h : displayOut d v inner sp = .ok o) :
    o = .text (pad sp (canonical d v)) :=
  displayOut_fixed d hid v hv hen ht (by rw [hd, Bool.and_false]) hb inner sp o h

/-- a default variant *with* `to_string` is a fixed name as well -/
theorem displayArm_fixed_default (d : EnumDef) (v : Variant) (ht : v.transparent = false)
    (hts : v.toStr.isSome = true) (hb : NoPlaceholder (canonical d v)) :
    displayArm d v = .ok (.fixed (canonical d v)) :=
  displayArm_fixed d v ht (by rw [← Option.not_isSome, hts]; rfl) hb

theorem pad_plain (s : Bytes) (fill : Bytes) (al : Option Align) (z : Bool) :
    pad { fill := fill, align := al, width := none, prec := none, zero := z } s = s := rfl

/-- the `0` flag and the fill never matter when no width is given -/
theorem pad_no_width (sp : FmtSpec) (h : sp.width = none) (s : Bytes) :
    pad sp s = truncTo sp.prec s := by
  simp [pad, h]

/-- the `0` flag is ignored for strings -/
theorem pad_zero_irrelevant (sp : FmtSpec) (s : Bytes) : pad { sp with zero := true } s = pad { sp with zero := false } s := rfl

theorem charCount_cons (b : Nat) (bs : Bytes) :
    charCount (b :: bs) = charCount bs + (if isCharStart b then 1 else 0) := by
  unfold charCount
  rw [List.filter_cons]
  split <;> rfl

theorem charCount_append (a b : Bytes) : charCount (a ++ b) = charCount a + charCount b := by
  simp [charCount, List.filter_append]

theorem charCount_repeat (k : Nat) (f : Bytes) : charCount (repeatBytes k f) = k * charCount f := by
  induction k with
  | zero => simp [repeatBytes, charCount]
  | succ n ih => simp [repeatBytes, charCount_append, ih, Nat.succ_mul, Nat.add_comm]

/-- truncation keeps at most `n` chars and is a prefix -/
theorem takeChars_prefix (n : Nat) (s : Bytes) : ∃ t, s = takeChars n s ++ t := by
  induction s generalizing n with
  | nil => exact ⟨[], rfl⟩
  | cons b bs ih =>
    unfold takeChars
    split
    · cases n with
      | zero => exact ⟨b :: bs, rfl⟩
      | succ m =>
        have ⟨t, ht⟩ := ih m
        exact ⟨t, congrArg (b :: ·) ht⟩
    · have ⟨t, ht⟩ := ih n
      exact ⟨t, congrArg (b :: ·) ht⟩

/-- truncation to `n` chars keeps exactly `min n (chars of s)` chars -/
theorem takeChars_count (n : Nat) (s : Bytes) : charCount (takeChars n s) = min n (charCount s) := by
  induction s generalizing n with
  | nil => exact (Nat.min_zero n).symm
  | cons b bs ih =>
    unfold takeChars
    rw [charCount_cons b bs]
    split
    · next hb =>
      cases n with
      | zero => exact (Nat.zero_min _).symm
      | succ m =>
        rw [charCount_cons, ih, if_pos hb]
        exact (Nat.succ_min_succ _ _).symm
    · next hb =>
      rw [charCount_cons, ih, if_neg hb]
      rfl

theorem half_add_half : ∀ k : Nat, k / 2 + (k + 1) / 2 = k
  | 0 => rfl
  | k + 1 => show (k + 1) / 2 + (k + 2) / 2 = k + 1 by
    rw [Nat.add_div_right k Nat.two_pos, ← Nat.add_assoc, Nat.add_comm ((k + 1) / 2), half_add_half k]

/-- the (truncated) name appears unchanged inside the padding: left / right / centre split of the fill -/
theorem pad_contains (fill : Bytes) (al : Option Align) (w : Nat) (p : Option Nat) (z : Bool) (s : Bytes) :
    ∃ l r, pad ⟨fill, al, some w, p, z⟩ s = repeatBytes l fill ++ pad ⟨fill, al, none, p, z⟩ s ++ repeatBytes r fill ∧
      l + r = w - charCount (pad ⟨fill, al, none, p, z⟩ s) ∧
      (al = none ∨ al = some .left → l = 0) ∧ (al = some .right → r = 0) ∧ (al = some .center → l = (l + r) / 2) := by
  simp only [pad]
  generalize truncTo p s = t
  split
  · next h =>
    exact ⟨0, 0, (List.append_nil t).symm, (Nat.sub_eq_zero_of_le h).symm, fun _ => rfl, fun _ => rfl, fun _ => rfl⟩
  · generalize w - charCount t = k
    rcases al with _ | _ | _ | _
    · exact ⟨0, k, rfl, Nat.zero_add k, fun _ => rfl, nofun, nofun⟩
    · exact ⟨0, k, rfl, Nat.zero_add k, fun _ => rfl, nofun, nofun⟩
    · exact ⟨k / 2, (k + 1) / 2, rfl, half_add_half k, nofun, nofun, fun _ => by rw [half_add_half]⟩
    · exact ⟨k, 0, (List.append_nil _).symm, rfl, nofun, fun _ => rfl, nofun⟩

/-- **Width.**  With a one-char fill the result has exactly `max width (chars after truncation)` chars. -/
theorem pad_charCount (fill : Bytes) (al : Option Align) (w : Nat) (p : Option Nat) (z : Bool) (s : Bytes)
    (hf : charCount fill = 1) :
    charCount (pad ⟨fill, al, some w, p, z⟩ s) = max w (charCount (pad ⟨fill, al, none, p, z⟩ s)) := by
  have ⟨l, r, he, hs, _⟩ := pad_contains fill al w p z s
  rw [he, charCount_append, charCount_append, charCount_repeat, charCount_repeat, hf, Nat.mul_one, Nat.mul_one,
    Nat.add_right_comm, hs, Nat.sub_add_eq_max]

theorem displayArm_interp_regime (d : EnumDef) (v : Variant) (lit : Bytes) (args : List Bytes)
    (h : displayArm d v = .ok (.interp lit args)) :
    v.transparent = false ∧ (v.toStr.isNone && v.isDefault) = false ∧
      ∃ used, captureFormatStrings (canonical d v) = .ok used := by
  by_cases hf : v.transparent = true ∨ (v.toStr.isNone && v.isDefault) = true
  · rw [displayArm_forwarding d v hf] at h
    split at h <;> cases h
  · have ⟨ht, hd⟩ := not_or.1 hf
    rw [Bool.not_eq_true] at ht hd
    cases hc : captureFormatStrings (canonical d v) with
    | ok used => exact ⟨ht, hd, used, rfl⟩
    | error e =>
      simp only [displayArm, ht, hd, preferredName_eq_canonical, hc, Bool.false_eq_true, ↓reduceIte] at h
      cases h

/-- named variant: the emitted `format_args!` binds exactly the declared fields that the literal uses,
    in declaration order -/
theorem named_args_cover (d : EnumDef) (v : Variant) (fs : List (Bytes × Option Bytes))
    (hf : v.fields = .named fs) (lit : Bytes) (args : List Bytes)
    (h : displayArm d v = .ok (.interp lit args)) :
    ∃ used, captureFormatStrings (canonical d v) = .ok used ∧ lit = canonical d v ∧
      args = (fs.map (·.1)).filter (fun f => (used.map (fun u => u.dropWhile isAsciiWs)).contains f) := by
  have ⟨ht, hd, used, hc⟩ := displayArm_interp_regime d v lit args h
  simp only [displayArm_naming d v ht hd used hc, hf] at h
  refine ⟨used, hc, ?_⟩
  split at h
  · split at h
    · cases h
    · cases h; exact ⟨rfl, rfl⟩
  · cases h

/-- tuple variant: the emitted call binds `field0 .. field(n-1)` positionally (all of them) -/
theorem tuple_args_cover (d : EnumDef) (v : Variant) (n : Nat) (hf : v.fields = .tuple n)
    (lit : Bytes) (args : List Bytes) (h : displayArm d v = .ok (.interp lit args)) :
    lit = canonical d v ∧ args = positional n := by
  have ⟨ht, hd, used, hc⟩ := displayArm_interp_regime d v lit args h
  simp only [displayArm_naming d v ht hd used hc, hf] at h
  split at h
  · cases h
  · split at h
    · cases h
    · cases h; exact ⟨rfl, rfl⟩

/-- placeholders on a unit variant are rejected (shared with C20) -/
theorem unit_placeholder_rejected (d : EnumDef) (v : Variant) (hf : v.fields = .unit)
    (ht : v.transparent = false) (hd : v.isDefault = false) (used : List Bytes)
    (hc : captureFormatStrings (canonical d v) = .ok used) (hne : used ≠ []) :
    displayArm d v = .error .unitPlaceholder := by
  rw [displayArm_naming d v ht (by rw [hd, Bool.and_false]) used hc, hf]
  exact if_neg fun h => hne (List.isEmpty_iff.1 h)

/-- `{}` on a tuple variant is rejected -/
theorem empty_brace_rejected (d : EnumDef) (v : Variant) (n : Nat) (hf : v.fields = .tuple n)
    (ht : v.transparent = false) (hd : v.isDefault = false) (used : List Bytes)
    (hc : captureFormatStrings (canonical d v) = .ok used) (he : [] ∈ used) :
    displayArm d v = .error .emptyPlaceholder := by
  rw [displayArm_naming d v ht (by rw [hd, Bool.and_false]) used hc, hf]
  exact if_pos (List.any_eq_true.2 ⟨[], he, rfl⟩)

/-- **The macro's placeholder scanner agrees with the format-string grammar**: for a name that is a well-formed
    format literal (tokens `{{`, `}}`, `{body}`, other characters) the scanner returns exactly the placeholders'
    argument names, in order (`capture_eq_parse`, Lemmas/Capture.lean).  Consequences for the Display arm: -/
theorem fixed_iff_no_placeholder_tokens (d : EnumDef) (v : Variant) (ts : List FmtTok) (hwf : ∀ t ∈ ts, t.wf)
    (hn : canonical d v = renderToks ts) : NoPlaceholder (canonical d v) ↔ tokArgs ts = [] := by
  unfold NoPlaceholder
  rw [hn, capture_eq_parse ts hwf]
  simp

/-- a tuple variant whose name is a well-formed literal with at least one (non-empty) placeholder is rendered by
    `format_args!(name, field0, .., field(n-1))` -/
theorem tuple_interp_of_wf (d : EnumDef) (v : Variant) (n : Nat) (hf : v.fields = .tuple n)
    (ht : v.transparent = false) (hd : (v.toStr.isNone && v.isDefault) = false)
    (ts : List FmtTok) (hwf : ∀ t ∈ ts, t.wf) (hn : canonical d v = renderToks ts)
    (hne : tokArgs ts ≠ []) (hnoempty : ∀ a ∈ tokArgs ts, a ≠ []) :
    displayArm d v = .ok (.interp (canonical d v) (positional n)) := by
  rw [displayArm_naming d v ht hd (tokArgs ts) (hn ▸ capture_eq_parse ts hwf), hf]
  have h1 : ¬ (tokArgs ts).any (·.isEmpty) = true := fun h =>
    have ⟨a, ha, he⟩ := List.any_eq_true.1 h
    hnoempty a ha (List.isEmpty_iff.1 he)
  exact (if_neg h1).trans (if_neg fun h => hne (List.isEmpty_iff.1 h))

/-- a named variant: the bound arguments are the declared fields the literal mentions -/
theorem named_interp_of_wf (d : EnumDef) (v : Variant) (fs : List (Bytes × Option Bytes)) (hf : v.fields = .named fs)
    (ht : v.transparent = false) (hd : (v.toStr.isNone && v.isDefault) = false)
    (ts : List FmtTok) (hwf : ∀ t ∈ ts, t.wf) (hn : canonical d v = renderToks ts)
    (hne : tokArgs ts ≠ []) (hid : ((tokArgs ts).map (fun u => u.dropWhile isAsciiWs)).all isIdentLike = true) :
    displayArm d v = .ok (.interp (canonical d v)
      ((fs.map (·.1)).filter (fun f => ((tokArgs ts).map (fun u => u.dropWhile isAsciiWs)).contains f))) := by
  rw [displayArm_naming d v ht hd (tokArgs ts) (hn ▸ capture_eq_parse ts hwf), hf]
  exact (if_pos hid).trans (if_neg fun h => hne (List.isEmpty_iff.1 h))

/-! non-vacuity / regression examples -/
example : pad { width := some 5, align := some .center, fill := [42] } [97, 98] = [42, 97, 98, 42, 42] := by decide
example : pad { width := some 4, prec := some 1 } [195, 169, 98] = [195, 169, 32, 32, 32] := by decide
example : captureFormatStrings [120, 123, 48, 58, 62, 52, 125, 123, 123, 125, 125] = .ok [[48]] := by rfl
example : NoPlaceholder [123, 123, 97, 125, 125] := by unfold NoPlaceholder; rfl

end Strum
