import StrumModel.Source
import StrumProofs.Lemmas.Overlap
/-
C12 — ascii_case_insensitive folds ASCII letters only, only for the variants it covers.
Together with C01 (`parse_iff`, stated in terms of `accepts`) these give the property.
-/
namespace Strum

/-- which variants are case-insensitive: the variant's own flag wins, else the enum's -/
theorem ci_flag_spec (d : EnumDef) (v : Variant) :
    d.ciOf v = true ↔ (v.ci = some true ∨ (v.ci = none ∧ d.ci = true)) := by
  unfold EnumDef.ciOf
  cases v.ci <;> simp

/-- byte level: folding identifies two bytes iff they are equal or are the two cases of one ASCII letter -/
theorem asciiLower_eq_iff (x y : Nat) :
    asciiLower x = asciiLower y ↔
      x = y ∨ (isLetter x = true ∧ isLetter y = true ∧ (x = y + 32 ∨ y = x + 32)) := by
  grind [asciiLower, isLetter, isUpper, isLower]

/-- a byte ≥ 0x80 (every byte of a non-ASCII character) is not a letter, so it folds to nothing but itself -/
theorem asciiLower_eq_of_ge (x y : Nat) (h : asciiLower x = asciiLower y) (hi : 128 ≤ x ∨ 128 ≤ y) : x = y := by
  grind [asciiLower, isUpper]

/-- pointwise description of ASCII case folding -/
def FoldEq : Bytes → Bytes → Prop
  | [], [] => True
  | a :: as, b :: bs =>
    (a = b ∨ (isLetter a = true ∧ isLetter b = true ∧ (a = b + 32 ∨ b = a + 32))) ∧ FoldEq as bs
  | _, _ => False

/-- **`eq_ignore_ascii_case` = equal lengths and, position by position, equal bytes or the two cases
    of one ASCII letter.** -/
theorem eqIgnoreAsciiCase_iff_foldEq (a b : Bytes) : eqIgnoreAsciiCase a b = true ↔ FoldEq a b := by
  induction a generalizing b with
  | nil => cases b <;> simp [eqIgnoreAsciiCase, FoldEq]
  | cons x xs ih =>
    cases b with
    | nil => simp [eqIgnoreAsciiCase, FoldEq]
    | cons y ys =>
      simp only [eqIgnoreAsciiCase, FoldEq, Bool.and_eq_true, beq_iff_eq, ih, asciiLower_eq_iff]

/-- **non-ASCII bytes must match exactly**: wherever either side has a byte ≥ 0x80, the two strings
    agree at that position. -/
theorem non_ascii_exact (a b : Bytes) (h : eqIgnoreAsciiCase a b = true) (i : Nat)
    (ha : i < a.length) (hb : i < b.length) (hi : 128 ≤ a[i] ∨ 128 ≤ b[i]) : a[i] = b[i] := by
  have hm := (eqIgnoreAsciiCase_iff_map a b).1 h
  have : (a.map asciiLower)[i]'(by simpa using ha) = (b.map asciiLower)[i]'(by simpa using hb) := by
    simp only [hm]
  rw [List.getElem_map, List.getElem_map] at this
  exact asciiLower_eq_of_ge _ _ this hi

/-- a case-insensitive variant accepts exactly the inputs that fold to one of its spellings -/
theorem ci_accepts_iff (d : EnumDef) (v : Variant) (hci : d.ciOf v = true) (s : Bytes) :
    accepts d v s = true ↔ ∃ sp ∈ serializations d.style v, FoldEq s sp := by
  simp only [accepts_iff, hci, if_true, eqIgnoreAsciiCase_iff_foldEq]

/-- every other variant stays case-sensitive: it accepts exactly its spellings -/
theorem cs_accepts_iff (d : EnumDef) (v : Variant) (hcs : d.ciOf v = false) (s : Bytes) :
    accepts d v s = true ↔ s ∈ serializations d.style v := by
  rw [accepts_cs hcs, List.contains_iff_mem]

/-- Unicode look-alikes whose *Unicode* case mapping is an ASCII letter (UTF-8 bytes):
    KELVIN SIGN vs k/K, LONG S vs s/S, DOTLESS I vs i/I, DOTTED CAPITAL I vs i/I, SHARP S vs ss/SS -/
def unicodeLookalikes : List (Bytes × Bytes) :=
  [([226, 132, 170], [107]), ([226, 132, 170], [75]),
   ([197, 191], [115]), ([197, 191], [83]),
   ([196, 177], [105]), ([196, 177], [73]),
   ([196, 176], [105]), ([196, 176], [73]),
   ([195, 159], [115, 115]), ([195, 159], [83, 83])]

/-- none of them matches under ASCII folding, in either direction (whole table, by evaluation) -/
theorem lookalikes_rejected :
    ∀ p ∈ unicodeLookalikes, eqIgnoreAsciiCase p.1 p.2 = false ∧ eqIgnoreAsciiCase p.2 p.1 = false := by
  decide

/-- a look-alike substituted for a letter inside a longer spelling is rejected as well: a non-ASCII
    byte on one side forces equality at that position -/
theorem nonascii_vs_ascii_rejected (a b : Bytes) (i : Nat) (ha : i < a.length) (hb : i < b.length)
    (h1 : 128 ≤ a[i]) (h2 : b[i] < 128) : eqIgnoreAsciiCase a b = false :=
  Bool.eq_false_iff.2 fun h => Nat.ne_of_gt (Nat.lt_of_lt_of_le h2 h1) (non_ascii_exact a b h i ha hb (Or.inl h1))

/-! non-vacuity -/
example : eqIgnoreAsciiCase [75, 105, 195, 159] [107, 73, 195, 159] = true := by decide
example : FoldEq [75, 105] [107, 73] := (eqIgnoreAsciiCase_iff_foldEq _ _).1 (by decide)

/-- **at source level**: a written variant is matched case-insensitively iff its OWN `ascii_case_insensitive` item says so,
    or - when it has none - iff the enum header carries the flag; no other variant's items enter -/
theorem source_ci (s : RawSource) (r : RawVariant) :
    s.declared.ciOf r.declared =
      (match lastOf VItem.ci? r.attrs.flatten with
       | some b => b
       | none => s.hdr.attrs.flatten.any (· == .ci)) := rfl

end Strum
