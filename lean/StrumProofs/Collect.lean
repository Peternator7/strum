import StrumProofs.Lemmas.Loop
/-
Attribute collection (`get_variant_properties`, `get_type_properties`): the one-pass loops with their occurrence
checks succeed iff no single-use item is written twice, and then compute the declarative readings
`RawVariant.declared` / `RawEnum.declared`; hence neither the grouping of items into `#[strum(..)]` lists nor the
order of independent items matters.
-/
namespace Strum

/-- the update an item performs, without the occurrence check -/
def applyItem (v : Variant) : VItem → Variant
  | .serialize s => { v with serialize := v.serialize ++ [s] }
  | .props ps => { v with props := v.props ++ ps }
  | .message s => { v with message := some s }
  | .detailed s => { v with detailed := some s }
  | .toStr s => { v with toStr := some s }
  | .transparent => { v with transparent := true }
  | .disabled => { v with disabled := true }
  | .default => { v with isDefault := true }
  | .defaultWith f => { v with defaultWith := some f }
  | .ci b => { v with ci := some b }

/-- the kinds of the single-use items of a list, in order -/
def kindsOf (its : List VItem) : List VKind := its.filterMap VItem.kind?

def baseVariant (r : RawVariant) : Variant := { ident := r.ident, fields := r.fields, discr := r.discr, docs := r.docs }

theorem foldl_applyItem (its : List VItem) (v : Variant) :
    its.foldl applyItem v =
      { v with
        serialize := v.serialize ++ serializesOf its, props := v.props ++ propsOf its,
        toStr := (lastOf VItem.toStr? its).or v.toStr, ci := (lastOf VItem.ci? its).or v.ci,
        message := (lastOf VItem.message? its).or v.message, detailed := (lastOf VItem.detailed? its).or v.detailed,
        defaultWith := (lastOf VItem.defaultWith? its).or v.defaultWith,
        disabled := v.disabled || its.any (· == .disabled), isDefault := v.isDefault || its.any (· == .default),
        transparent := v.transparent || its.any (· == .transparent) } := by
  induction its generalizing v with
  | nil => simp [serializesOf, propsOf, lastOf]
  | cons it its ih =>
    rw [List.foldl_cons, ih]
    -- `Bool.beq_eq_decide_eq`: without it simp leaves `VItem.message s == VItem.disabled` and the like standing
    cases it <;> simp [applyItem, serializesOf, propsOf, lastOf_cons, VItem.toStr?, VItem.ci?, VItem.message?,
      VItem.detailed?, VItem.defaultWith?, Bool.beq_eq_decide_eq]

theorem fold_serialize (its : List VItem) (v : Variant) :
    (its.foldl applyItem v).serialize = v.serialize ++ serializesOf its := by rw [foldl_applyItem]

theorem fold_props (its : List VItem) (v : Variant) :
    (its.foldl applyItem v).props = v.props ++ propsOf its := by rw [foldl_applyItem]

theorem fold_frame (its : List VItem) (v : Variant) :
    (its.foldl applyItem v).ident = v.ident ∧ (its.foldl applyItem v).fields = v.fields ∧
    (its.foldl applyItem v).discr = v.discr ∧ (its.foldl applyItem v).docs = v.docs := by
  rw [foldl_applyItem]; exact ⟨rfl, rfl, rfl, rfl⟩

/-- **the fold of the updates is the declarative reading** -/
theorem fold_eq_declared (r : RawVariant) :
    r.attrs.flatten.foldl applyItem (baseVariant r) = r.declared := by
  rw [foldl_applyItem]
  simp [baseVariant, RawVariant.declared]

/-- **`get_variant_properties` succeeds iff no single-use item is written twice** anywhere on the variant, **and then yields
    the declarative reading** -/
theorem collectVariant_spec (r : RawVariant) :
    SucceedsIff (collectVariant r) (kindsOf r.attrs.flatten).Nodup r.declared := by
  -- written with `it.kind?.toList`, the accepted step is one expression for all ten items, and each branch of
  -- `collectStep` reduces to it
  have h := foldlM_guarded (step := collectStep) (key := VItem.kind?) (seen := fun st k => st.seen.contains k)
    (err := fun k => k) (upd := fun st it => ⟨applyItem st.v it, it.kind?.toList ++ st.seen⟩)
    (π := CollectState.v) (ap := applyItem)
    (fun st it h => by cases it <;> first | rfl | cases h) (fun st it k h => by cases it <;> cases h <;> rfl)
    (fun st it k => by cases it.kind? <;> simp [Bool.beq_eq_decide_eq]) (fun _ _ => rfl)
    r.attrs.flatten { v := baseVariant r }
  rw [← eq_foldlM collectStep collectItems (fun _ => rfl) fun st it its => by rw [collectItems]; cases collectStep st it <;> rfl,
    fold_eq_declared] at h
  refine (h.congr (and_iff_left fun _ _ => rfl)).of_eq ?_ rfl
  unfold collectVariant baseVariant
  cases collectItems _ _ <;> rfl

/-- **`get_variant_properties` fails iff a single-use kind is written twice** anywhere on the variant -/
theorem collectVariant_error_iff (r : RawVariant) :
    (∃ k, collectVariant r = .error k) ↔ ¬ (kindsOf r.attrs.flatten).Nodup :=
  (collectVariant_spec r).error_iff

/-- **otherwise the result is the fold of the plain updates** over the items in source order -/
theorem collectVariant_ok (r : RawVariant) (h : (kindsOf r.attrs.flatten).Nodup) :
    collectVariant r = .ok (r.attrs.flatten.foldl applyItem (baseVariant r)) := by
  rw [fold_eq_declared]; exact (collectVariant_spec r).1 h

/-- **grouping is irrelevant**: only the flattened item sequence matters, not how it is split into `#[strum(..)]` lists -/
theorem collect_regroup (r r' : RawVariant) (hi : r.ident = r'.ident) (hf : r.fields = r'.fields) (hd : r.discr = r'.discr)
    (hdoc : r.docs = r'.docs) (h : r.attrs.flatten = r'.attrs.flatten) : collectVariant r = collectVariant r' := by
  unfold collectVariant; rw [hi, hf, hd, hdoc, h]

/-- **what a derive sees**: for a variant without a repeated single-use item, collection succeeds and
    * `props` is the concatenation of ALL `props(..)` groups in source order, whatever sits between them,
    * `serialize` lists ALL `serialize = ".."` literals in source order,
    * the flags are set iff the item is written anywhere,
    * identifier, fields, discriminant and doc lines are carried over unchanged. -/
theorem collected_spec (r : RawVariant) (h : (kindsOf r.attrs.flatten).Nodup) :
    ∃ v, collectVariant r = .ok v ∧
      v.props = propsOf r.attrs.flatten ∧ v.serialize = serializesOf r.attrs.flatten ∧
      v.disabled = r.attrs.flatten.contains .disabled ∧ v.isDefault = r.attrs.flatten.contains .default ∧
      v.transparent = r.attrs.flatten.contains .transparent ∧
      v.ident = r.ident ∧ v.fields = r.fields ∧ v.discr = r.discr ∧ v.docs = r.docs :=
  ⟨_, (collectVariant_spec r).1 h, rfl, rfl, List.any_beq', List.any_beq', List.any_beq', rfl, rfl, rfl, rfl⟩

/-- `props` groups separated by other items, or written in one list with other items between them, merge all the same -/
theorem props_groups_merge (pre mid post : List VItem) (g1 g2 : List (Bytes × PropVal))
    (hm : propsOf mid = []) :
    propsOf (pre ++ VItem.props g1 :: mid ++ VItem.props g2 :: post) = propsOf pre ++ g1 ++ g2 ++ propsOf post := by
  simp only [propsOf, List.filterMap_append, List.filterMap_cons, List.flatten_append, List.flatten_cons] at hm ⊢
  simp [hm]

/-- two items are independent unless both are `serialize`, both are `props`, or both have the same single-use kind -/
def independent (a b : VItem) : Bool :=
  match a, b with
  | .serialize _, .serialize _ => false
  | .props _, .props _ => false
  | _, _ => a.kind? != b.kind? || (a.kind? == none && b.kind? == none)

/-- where no single-use item is written twice, the declarative reading depends on the order of the items only through the
    order of the `serialize` literals and of the `props` entries -/
theorem declared_perm (r r' : RawVariant) (hi : r.ident = r'.ident) (hf : r.fields = r'.fields) (hd : r.discr = r'.discr)
    (hdoc : r.docs = r'.docs) (hp : r.attrs.flatten.Perm r'.attrs.flatten) (hn : (kindsOf r.attrs.flatten).Nodup)
    (hs : serializesOf r.attrs.flatten = serializesOf r'.attrs.flatten)
    (hpr : propsOf r.attrs.flatten = propsOf r'.attrs.flatten) : r.declared = r'.declared := by
  simp only [RawVariant.declared]
  -- the flags are `any`s; each of the five getters reads items of one kind only
  rw [hi, hf, hd, hdoc, hs, hpr, hp.any_eq, hp.any_eq, hp.any_eq,
    lastOf_perm VItem.toStr? (k := .toStr) (fun a b h => by cases a <;> first | rfl | cases h) hp hn,
    lastOf_perm VItem.ci? (k := .ci) (fun a b h => by cases a <;> first | rfl | cases h) hp hn,
    lastOf_perm VItem.message? (k := .message) (fun a b h => by cases a <;> first | rfl | cases h) hp hn,
    lastOf_perm VItem.detailed? (k := .detailed) (fun a b h => by cases a <;> first | rfl | cases h) hp hn,
    lastOf_perm VItem.defaultWith? (k := .defaultWith) (fun a b h => by cases a <;> first | rfl | cases h) hp hn]

/-- **The order of the items is irrelevant**, except for the relative order of the `serialize` literals and of the
    `props` entries: two variants whose item sequences are permutations of each other with the same serialize and props
    subsequences collect to the same properties (or both fail). -/
theorem collect_perm (r r' : RawVariant) (hi : r.ident = r'.ident) (hf : r.fields = r'.fields) (hd : r.discr = r'.discr)
    (hdoc : r.docs = r'.docs) (hp : r.attrs.flatten.Perm r'.attrs.flatten)
    (hs : serializesOf r.attrs.flatten = serializesOf r'.attrs.flatten)
    (hpr : propsOf r.attrs.flatten = propsOf r'.attrs.flatten) :
    (collectVariant r).toOption = (collectVariant r').toOption :=
  (collectVariant_spec r).toOption_congr (collectVariant_spec r') (hp.filterMap _).nodup_iff
    fun hn => declared_perm r r' hi hf hd hdoc hp hn hs hpr

/-- **order is irrelevant** for independent neighbours: the collected properties (or the failure) of a variant do not depend
    on the order of two independent neighbouring items -/
theorem collect_swap (r : RawVariant) (pre post : List VItem) (a b : VItem) (h : independent a b = true)
    (hr : r.attrs.flatten = pre ++ a :: b :: post) :
    (collectVariant r).toOption = (collectVariant { r with attrs := [pre ++ b :: a :: post] }).toOption := by
  -- a swap is a permutation, and `independent` rules out two `serialize`s and two `props`
  refine collect_perm r _ rfl rfl rfl rfl ?_ ?_ ?_ <;> rw [hr, List.flatten_singleton]
  · exact .append_left pre (.swap b a post)
  · refine filterMap_swap _ pre post a b ?_
    cases a <;> first | exact .inl rfl | (cases b <;> first | exact .inr rfl | cases h)
  · refine congrArg List.flatten (filterMap_swap _ pre post a b ?_)
    cases a <;> first | exact .inl rfl | (cases b <;> first | exact .inr rfl | cases h)

def ekindsOf (its : List EItem) : List EKind := its.map EItem.kind

def baseEnum (r : RawEnum) (variants : List Variant) : ECollectState :=
  { d := { name := r.name, reprAttrs := r.reprAttrs, discName := r.discName, discVis := r.discVis, variants := variants } }

/-- one accepted iteration of the enum-level loop -/
def applyESeen (st : ECollectState) (it : EItem) : ECollectState := { applyEItem st it with seen := it.kind :: st.seen }

theorem foldl_applyESeen (its : List EItem) (st : ECollectState) :
    its.foldl applyESeen st =
      { d := { st.d with
          style := (lastOf EItem.style? its).elim st.d.style parseStyle, pfx := (lastOf EItem.pfx? its).or st.d.pfx,
          ci := st.d.ci || its.any (· == .ci), usePhf := st.d.usePhf || its.any (· == .usePhf),
          constIntoStr := st.d.constIntoStr || its.any (· == .constIntoStr) },
        seen := (ekindsOf its).reverse ++ st.seen,
        hasTy := st.hasTy || its.any (· == .parseErrTy), hasFn := st.hasFn || its.any (· == .parseErrFn) } := by
  induction its generalizing st with
  | nil => simp [lastOf, ekindsOf]
  | cons it its ih =>
    rw [List.foldl_cons, ih]
    cases it <;> simp [applyESeen, applyEItem, ekindsOf, lastOf_cons, EItem.style?, EItem.pfx?, Bool.beq_eq_decide_eq]
    -- left by `serializeAll s`: both sides are `parseStyle` of the last style string, which is `s` if `its` names none
    cases lastOf EItem.style? its <;> rfl

theorem collectEItems_spec (r : RawEnum) (vs : List Variant) :
    SucceedsIff (collectEItems (baseEnum r vs) r.attrs.flatten) (ekindsOf r.attrs.flatten).Nodup
      (r.attrs.flatten.foldl applyESeen (baseEnum r vs)) := by
  have h := foldlM_guarded (step := collectEStep) (key := some ∘ EItem.kind) (seen := fun st k => st.seen.contains k)
    (err := .dup) (upd := applyESeen) (π := id) (ap := applyESeen)
    (fun _ _ h => nomatch h) (fun st it k h => by cases h; rfl)
    (fun st it k => by simp [applyESeen, Bool.beq_eq_decide_eq]) (fun _ _ => rfl)
    r.attrs.flatten (baseEnum r vs)
  rw [← eq_foldlM collectEStep collectEItems (fun _ => rfl) fun st it its => by rw [collectEItems]; cases collectEStep st it <;> rfl,
    List.filterMap_eq_map, Except.map_id] at h
  exact h.congr (and_iff_left fun _ _ => rfl)

theorem collectEItems_nodup_iff (r : RawEnum) (vs : List Variant) :
    (∃ e, collectEItems (baseEnum r vs) r.attrs.flatten = .error e) ↔ ¬ (ekindsOf r.attrs.flatten).Nodup :=
  (collectEItems_spec r vs).error_iff

theorem collectEnum_eq (r : RawEnum) (vs : List Variant) :
    collectEnum r vs = (if r.attrs.flatten.all styleOk = true then
      (match collectEItems (baseEnum r vs) r.attrs.flatten with
       | .error e => .error e
       | .ok st => .ok { st.d with customErr := st.hasTy && st.hasFn })
      else .error .badStyle) := by
  simp only [collectEnum, baseEnum]
  cases r.attrs.flatten.all styleOk <;> rfl

/-- **`get_type_properties` succeeds iff the style strings are known and no item is written twice** (every enum-level item
    is single-use), **and then yields the declarative reading** -/
theorem collectEnum_spec (r : RawEnum) (vs : List Variant) :
    SucceedsIff (collectEnum r vs) (r.attrs.flatten.all styleOk = true ∧ (ekindsOf r.attrs.flatten).Nodup)
      (r.declared vs) := by
  have h := ((collectEItems_spec r vs).map fun st => ({ st.d with customErr := st.hasTy && st.hasFn } : EnumDef)).guard
    (r.attrs.flatten.all styleOk = true) ECollectErr.badStyle
  rw [foldl_applyESeen] at h
  refine h.of_eq ?_ ?_
  · rw [collectEnum_eq]
    cases collectEItems (baseEnum r vs) r.attrs.flatten <;> rfl
  · simp only [baseEnum, RawEnum.declared, Bool.false_or, Option.or_none]
    cases lastOf EItem.style? r.attrs.flatten <;> rfl

/-- **`get_type_properties` fails iff a style string is unknown or an item is written twice** -/
theorem collectEnum_error_iff (r : RawEnum) (vs : List Variant) :
    (∃ e, collectEnum r vs = .error e) ↔ (r.attrs.flatten.all styleOk = false ∨ ¬ (ekindsOf r.attrs.flatten).Nodup) := by
  rw [← Bool.not_eq_true, ← Classical.not_and_iff_not_or_not]
  exact (collectEnum_spec r vs).error_iff

theorem RawEnum.declared_perm (r r' : RawEnum) (vs : List Variant) (hn : r.name = r'.name) (hr : r.reprAttrs = r'.reprAttrs)
    (hdn : r.discName = r'.discName) (hdv : r.discVis = r'.discVis) (hp : r.attrs.flatten.Perm r'.attrs.flatten)
    (hk : (ekindsOf r.attrs.flatten).Nodup) : r.declared vs = r'.declared vs := by
  have hk' : (r.attrs.flatten.filterMap (some ∘ EItem.kind)).Nodup := by rw [List.filterMap_eq_map]; exact hk
  simp only [RawEnum.declared]
  rw [hn, hr, hdn, hdv, hp.any_eq, hp.any_eq, hp.any_eq, hp.any_eq, hp.any_eq,
    lastOf_perm EItem.style? (k := .serializeAll) (fun a b h => by cases a <;> first | rfl | cases h) hp hk',
    lastOf_perm EItem.pfx? (k := .pfx) (fun a b h => by cases a <;> first | rfl | cases h) hp hk']

/-- **On the enum every item is single-use, so neither the grouping into `#[strum(..)]` lists nor the ORDER of the items
    matters at all**: permuted item sequences collect to the same enum properties (or both fail). -/
theorem collectEnum_perm (r r' : RawEnum) (vs : List Variant) (hn : r.name = r'.name) (hr : r.reprAttrs = r'.reprAttrs)
    (hdn : r.discName = r'.discName) (hdv : r.discVis = r'.discVis) (hp : r.attrs.flatten.Perm r'.attrs.flatten) :
    (collectEnum r vs).toOption = (collectEnum r' vs).toOption := by
  refine (collectEnum_spec r vs).toOption_congr (collectEnum_spec r' vs) ?_ fun h => r.declared_perm r' vs hn hr hdn hdv hp h.2
  rw [hp.all_eq, ekindsOf, (hp.map EItem.kind).nodup_iff, ekindsOf]

example : collectEnum { name := [69], attrs := [[.ci], [.pfx [112], .serializeAll "snake_case"], [.parseErrFn, .parseErrTy]] } []
    = .ok { name := [69], ci := true, pfx := some [112], style := some .snake, customErr := true } := by rfl
example : collectEnum { name := [69], attrs := [[.serializeAll "snake"]] } [] = .error .badStyle := by rfl
example : collectEnum { name := [69], attrs := [[.ci], [.usePhf, .ci]] } [] = .error (.dup .ci) := by rfl

/-! ### non-vacuity -/
example : collectVariant { ident := [65], attrs := [[.serialize [97], .disabled], [.props [([107], .int 1)]], [.message [109]], [.props [([108], .bool true)]]] }
    = .ok { ident := [65], serialize := [[97]], disabled := true, message := some [109], props := [([107], .int 1), ([108], .bool true)] } := by rfl
example : collectVariant { ident := [65], attrs := [[.disabled], [.message [109], .disabled]] } = .error .disabled := by rfl

end Strum
