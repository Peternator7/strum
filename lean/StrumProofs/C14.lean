import StrumModel.Message
import StrumProofs.Lemmas.Lookup
import StrumProofs.Source
/-
C14 — EnumMessage returns exactly the per-variant message, detail, docs and spellings.
Model: StrumModel/Message.lean (four arm lists built in one pass; `_ => None` appended when the arm
count is smaller than the variant count), mirroring enum_messages.rs:23-112.
-/
namespace Strum

/-- an arm generator that emits at most one arm per variant, keyed by the variant's identifier -/
def AtMostOne {α : Type} (f : Variant → List (Bytes × α)) : Prop :=
  ∀ v, f v = [] ∨ ∃ a, f v = [(v.ident, a)]

/-- such a generator is a partial function of the variant: `flatMap` over it is a `filterMap` -/
theorem AtMostOne.flatMap_eq {α : Type} {f : Variant → List (Bytes × α)} (h : AtMostOne f) (vs : List Variant) :
    vs.flatMap f = vs.filterMap (fun v => (f v).head?) := by
  induction vs with
  | nil => rfl
  | cons v vs ih =>
    rw [List.flatMap_cons, List.filterMap_cons, ih]
    rcases h v with h0 | ⟨a, h1⟩
    · rw [h0]; rfl
    · rw [h1]; rfl

/-- **Exhaustiveness + value.**  The generated `match` always compiles (the macro's arm-counting test for
    appending `_ => None` is sound because each variant contributes at most one arm) and returns the
    variant's own arm value, or `None`. -/
theorem evalArms_spec {α : Type} (f : Variant → List (Bytes × α)) (h : AtMostOne f) (vs : List Variant)
    (hid : (vs.map (·.ident)).Nodup) (v : Variant) (hv : v ∈ vs) :
    evalArms (vs.flatMap f) (decide ((vs.flatMap f).length < vs.length)) v.ident =
      .val ((f v).head?.map (·.2)) := by
  have hkey : (fun w => (f w).head?.any (fun p => p.1 == v.ident)) = fun w => (f w).head?.isSome && w.ident == v.ident :=
    funext fun w => by
      rcases h w with h0 | ⟨a, h1⟩
      · rw [h0]; rfl
      · rw [h1]; rfl
  unfold evalArms
  rw [h.flatMap_eq, List.find?_filterMap, hkey, find?_key Variant.ident hid hv]
  cases hf : (f v).head? with
  | none =>
    -- the variant without an arm makes the arm count fall short: the wildcard is there
    have : (vs.filterMap (fun v => (f v).head?)).length < vs.length :=
      List.length_filterMap_lt_length_iff_exists.2 ⟨v, hv, hf⟩
    simp [this]
  | some p => simp [hf]

theorem AtMostOne.of_option {α : Type} {f : Variant → List (Bytes × α)} (g : Variant → Option α)
    (h : ∀ v, f v = (g v).toList.map (v.ident, ·)) : AtMostOne f := by
  intro v
  rw [h v]
  cases g v
  · exact .inl rfl
  · exact .inr ⟨_, rfl⟩

theorem evalArms_option {α : Type} {f : Variant → List (Bytes × α)} (g : Variant → Option α)
    (h : ∀ v, f v = (g v).toList.map (v.ident, ·)) (vs : List Variant)
    (hid : (vs.map (·.ident)).Nodup) (v : Variant) (hv : v ∈ vs) :
    evalArms (vs.flatMap f) (decide ((vs.flatMap f).length < vs.length)) v.ident = .val (g v) :=
  (evalArms_spec f (.of_option g h) vs hid v hv).trans <| by
    rw [h v]
    cases g v <;> rfl

theorem msgArmOf_eq (v : Variant) :
    msgArmOf v = (if v.disabled then none else v.message).toList.map (v.ident, ·) := by
  unfold msgArmOf
  cases v.disabled <;> cases v.message <;> rfl

theorem detArmOf_eq (v : Variant) :
    detArmOf v = (if v.disabled then none else
      (match v.detailed with | some x => some x | none => v.message)).toList.map (v.ident, ·) := by
  unfold detArmOf
  cases v.disabled <;> cases v.message <;> cases v.detailed <;> rfl

theorem docArmOf_eq (v : Variant) :
    docArmOf v = (if v.disabled || v.docs.isEmpty then none else
      some (docText (v.docs.map stripOneSpace))).toList.map (v.ident, ·) := by
  unfold docArmOf
  cases v.disabled <;> cases v.docs.isEmpty <;> rfl

theorem msgArmOf_atMostOne : AtMostOne msgArmOf := .of_option _ msgArmOf_eq
theorem detArmOf_atMostOne : AtMostOne detArmOf := .of_option _ detArmOf_eq
theorem docArmOf_atMostOne : AtMostOne docArmOf := .of_option _ docArmOf_eq

/-- **`get_message`** = the message literal, `None` for a disabled variant or when there is none -/
theorem message_spec (d : EnumDef) (hid : (d.variants.map (·.ident)).Nodup) (v : Variant) (hv : v ∈ d.variants) :
    getMessage d v.ident = .val (if v.disabled then none else v.message) :=
  evalArms_option _ msgArmOf_eq d.variants hid v hv

/-- **`get_detailed_message`** = detailed_message, falling back to message, else `None` -/
theorem detailed_spec (d : EnumDef) (hid : (d.variants.map (·.ident)).Nodup) (v : Variant) (hv : v ∈ d.variants) :
    getDetailed d v.ident = .val (if v.disabled then none else (match v.detailed with | some x => some x | none => v.message)) :=
  evalArms_option _ detArmOf_eq d.variants hid v hv

/-- **`get_documentation`** = the doc comment with one leading space removed per line; a single line
    as is, several lines each terminated by a newline; `None` without docs or when disabled -/
theorem doc_spec (d : EnumDef) (hid : (d.variants.map (·.ident)).Nodup) (v : Variant) (hv : v ∈ d.variants) :
    getDocumentation d v.ident =
      .val (if v.disabled || v.docs.isEmpty then none else some (docText (v.docs.map stripOneSpace))) :=
  evalArms_option _ docArmOf_eq d.variants hid v hv

/-- **`get_serializations`** = exactly the spellings C01 defines, for every variant, disabled or not -/
theorem ser_spec (d : EnumDef) (hid : (d.variants.map (·.ident)).Nodup) (v : Variant) (hv : v ∈ d.variants) :
    getSerializationsOf d v.ident = .val (some (serializations d.style v)) := by
  have := find?_key_self Variant.ident hid hv
  simp only [getSerializationsOf, genMessage, evalArms, List.find?_map, Function.comp_def, this, Option.map_some]

theorem stripOneSpace_space (t : Bytes) : stripOneSpace (32 :: t) = t := rfl
theorem stripOneSpace_other (l : Bytes) (h : l.head? ≠ some 32) : stripOneSpace l = l := by
  unfold stripOneSpace
  split
  · simp at h
  · rfl

theorem docText_single (x : Bytes) : docText [x] = x := rfl
theorem docText_multi (a b : Bytes) (rest : List Bytes) :
    docText (a :: b :: rest) = ((a :: b :: rest).map (fun l => l ++ [10])).flatten := rfl

/-! non-vacuity -/
def msgEnum : EnumDef :=
  { variants := [{ ident := [65], message := some [109] }, { ident := [66], docs := [[32, 120], [121]] },
                 { ident := [67], disabled := true, message := some [110] }] }
example : getMessage msgEnum [65] = .val (some [109]) := by rfl
example : getDocumentation msgEnum [66] = .val (some [120, 10, 121, 10]) := by rfl
example : getMessage msgEnum [67] = .val none := by rfl

/-! ### at source level (StrumProofs/Source.lean): what the getters return, read off the attributes AS WRITTEN on that one
variant - nothing written on another variant, before or after it, enters -/

theorem source_message (s : RawSource) (hid : (s.variants.map (·.ident)).Nodup) (r : RawVariant) (hr : r ∈ s.variants) :
    getMessage s.declared r.ident =
      .val (if r.isDisabled then none else lastOf VItem.message? r.attrs.flatten) :=
  message_spec s.declared (source_nodup s hid) r.declared (source_mem s r hr)

theorem source_detailed (s : RawSource) (hid : (s.variants.map (·.ident)).Nodup) (r : RawVariant) (hr : r ∈ s.variants) :
    getDetailed s.declared r.ident =
      .val (if r.isDisabled then none else
        (match lastOf VItem.detailed? r.attrs.flatten with
         | some x => some x
         | none => lastOf VItem.message? r.attrs.flatten)) :=
  detailed_spec s.declared (source_nodup s hid) r.declared (source_mem s r hr)

theorem source_documentation (s : RawSource) (hid : (s.variants.map (·.ident)).Nodup) (r : RawVariant) (hr : r ∈ s.variants) :
    getDocumentation s.declared r.ident =
      .val (if r.isDisabled || r.docs.isEmpty then none else some (docText (r.docs.map stripOneSpace))) :=
  doc_spec s.declared (source_nodup s hid) r.declared (source_mem s r hr)

theorem source_serializations (s : RawSource) (hid : (s.variants.map (·.ident)).Nodup) (r : RawVariant) (hr : r ∈ s.variants) :
    getSerializationsOf s.declared r.ident =
      .val (some (let a := serializesOf r.attrs.flatten ++ (lastOf VItem.toStr? r.attrs.flatten).toList
                  if a.isEmpty then [convertCase s.declared.style r.ident] else a)) :=
  ser_spec s.declared (source_nodup s hid) r.declared (source_mem s r hr)

end Strum
