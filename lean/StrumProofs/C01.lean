import StrumProofs.Lemmas.FirstMatch
import StrumProofs.Lemmas.Overlap
import StrumProofs.Lemmas.Lookup
import StrumProofs.Source
/-
C01 — EnumString returns variant V iff the input is one of V's declared spellings.

Model: `parse d s = (genFromStr d).map (·.eval s)` (StrumModel/FromStr.lean), mirroring
strum_macros/src/macros/strings/from_string.rs.  Spec: `accepts d v s` (StrumModel/Overlap.lean):
`s` equals one of `v`'s spellings, exactly or ignoring ASCII case when `v` is case-insensitive.
All statements quantify over every definition `d` and every byte string `s`.
The `use_phf` code path is related to this one by C16 (`phf_same_result`).
-/
namespace Strum

theorem genFromStr_nophf (d : EnumDef) (h : d.usePhf = false) :
    genFromStr d =
      match d.defaults with
      | [] => .ok ⟨[], d.candidates.flatMap (armsOfVariant d),
                   if d.customErr then .errCustom else .errStd,
                   if d.customErr then .custom else .strumParseError⟩
      | [v] => if v.fields.arity = 1
               then .ok ⟨[], d.candidates.flatMap (armsOfVariant d), .okCapture v.ident, .strumParseError⟩
               else .error .defaultShape
      | _ :: _ :: _ => .error .twoDefaults := by
  have hp : d.candidates.flatMap (phfOfVariant d) = [] :=
    List.flatMap_eq_nil_iff.2 fun v _ => by rw [phfOfVariant, h]; rfl
  unfold genFromStr
  simp only [hp, List.map_nil, hasDupKey]
  rfl

/-- **First-match characterisation (no non-overlap hypothesis).**  The parser returns the first
    candidate variant, in declaration order, that accepts the input; otherwise the fall-through. -/
theorem parse_first_match (d : EnumDef) (hphf : d.usePhf = false) (p : FromStrImpl)
    (hg : genFromStr d = .ok p) (s : Bytes) :
    parse d s = .ok (match d.candidates.find? (fun v => accepts d v s) with
                     | some v => .ok v.ident (payloadOf v)
                     | none => p.fall.eval s) := by
  rw [parse_eq d p hg s]
  simp only [hphf, Bool.false_and, Bool.not_false, Bool.or_true, Bool.true_and]
  rw [List.find?_eq_none.2 fun _ _ => Bool.false_ne_true]
  rfl

/-- **Accepting direction, pointwise.**  No global non-overlap is needed: if `v` is the ONLY candidate that accepts this
    particular input, the parser yields `v` (enums in which two variants share a spelling are still decided on every
    input that only one of them accepts). -/
theorem parse_accepting_at (d : EnumDef) (hphf : d.usePhf = false) (p : FromStrImpl)
    (hg : genFromStr d = .ok p) (s : Bytes) (v : Variant)
    (hv : v ∈ d.candidates) (ha : accepts d v s = true)
    (hu : ∀ w ∈ d.candidates, accepts d w s = true → w = v) :
    parse d s = .ok (.ok v.ident (payloadOf v)) := by
  rw [parse_first_match d hphf p hg s, find?_unique hv ha hu]

/-- **Accepting direction.**  Under non-overlap, an input that is one of `v`'s spellings yields `v`
    with payload fields from `Default` / `default_with`. -/
theorem parse_accepting (d : EnumDef) (hphf : d.usePhf = false) (p : FromStrImpl)
    (hg : genFromStr d = .ok p) (hno : NoOverlap d) (s : Bytes) (v : Variant)
    (hv : v ∈ d.candidates) (ha : accepts d v s = true) :
    parse d s = .ok (.ok v.ident (payloadOf v)) :=
  parse_accepting_at d hphf p hg s v hv ha fun w hw haw => hno s w hw v hv haw ha

/-- **Rejecting direction.**  An input that is no candidate's spelling goes to the fall-through:
    the `default` variant capturing the input, or the error. -/
theorem parse_other (d : EnumDef) (hphf : d.usePhf = false) (p : FromStrImpl)
    (hg : genFromStr d = .ok p) (s : Bytes)
    (h : ∀ v ∈ d.candidates, accepts d v s = false) :
    parse d s = .ok (p.fall.eval s) := by
  rw [parse_first_match d hphf p hg s, List.find?_eq_none.2 fun v hv => Bool.eq_false_iff.1 (h v hv)]

/-- the fall-through is the (single) enabled `default` variant when there is one, else the error
    selected by `parse_err_ty`/`parse_err_fn` -/
theorem fall_spec (d : EnumDef) (hphf : d.usePhf = false) (p : FromStrImpl) (hg : genFromStr d = .ok p) :
    (d.defaults = [] ∧ p.fall = (if d.customErr then .errCustom else .errStd)) ∨
    (∃ v, d.defaults = [v] ∧ v.fields.arity = 1 ∧ p.fall = .okCapture v.ident) :=
  (genFall_ok (genFromStr_ok hg).2.2).1

/-- **Every case of the parser's answer**: the first candidate that accepts the input; when none does, the standard or
    custom error if there is no `default` variant, else that variant holding the input. -/
theorem parse_cases (d : EnumDef) (hphf : d.usePhf = false) (p : FromStrImpl) (hg : genFromStr d = .ok p) (s : Bytes) :
    (∃ v ∈ d.candidates, accepts d v s = true ∧ parse d s = .ok (.ok v.ident (payloadOf v))) ∨
    ((∀ v ∈ d.candidates, accepts d v s = false) ∧
      ((d.defaults = [] ∧ parse d s = .ok (if d.customErr then .errCustom s else .errStd)) ∨
       ∃ v, d.defaults = [v] ∧ parse d s = .ok (.ok v.ident [.captured s]))) := by
  rw [parse_first_match d hphf p hg s]
  rcases find?_cases (fun v => accepts d v s) d.candidates with ⟨v, hv, ha, hf⟩ | ⟨hn, hf⟩
  · rw [hf]
    exact Or.inl ⟨v, hv, ha, rfl⟩
  · rw [hf]
    refine Or.inr ⟨hn, ?_⟩
    rcases fall_spec d hphf p hg with ⟨h0, hf⟩ | ⟨v, hd, _, hf⟩
    · rw [hf]
      refine Or.inl ⟨h0, ?_⟩
      cases d.customErr <;> rfl
    · rw [hf]
      exact Or.inr ⟨v, hd, rfl⟩

/-- **iff (the property statement).**  Under non-overlap the parser yields `Ok` of a candidate
    variant exactly when the input is one of that variant's spellings; any other `Ok` is the
    default variant holding the input itself; everything else is an error. -/
theorem parse_iff (d : EnumDef) (hphf : d.usePhf = false) (p : FromStrImpl)
    (hg : genFromStr d = .ok p) (hno : NoOverlap d) (s : Bytes) (k : Bytes) (pl : List FieldInit) :
    parse d s = .ok (.ok k pl) ↔
      (∃ v ∈ d.candidates, accepts d v s = true ∧ k = v.ident ∧ pl = payloadOf v) ∨
      ((∀ v ∈ d.candidates, accepts d v s = false) ∧
        ∃ v, d.defaults = [v] ∧ k = v.ident ∧ pl = [.captured s]) := by
  constructor
  · intro h
    rcases parse_cases d hphf p hg s with ⟨v, hv, ha, hp⟩ | ⟨hn, ⟨_, hp⟩ | ⟨v, hd, hp⟩⟩
    · cases hp.symm.trans h
      exact Or.inl ⟨v, hv, ha, rfl, rfl⟩
    · rw [hp] at h
      split at h <;> cases h
    · cases hp.symm.trans h
      exact Or.inr ⟨hn, v, hd, rfl, rfl⟩
  · rintro (⟨v, hv, ha, rfl, rfl⟩ | ⟨hnone, v, hd, rfl, rfl⟩)
    · exact parse_accepting d hphf p hg hno s v hv ha
    · rw [parse_other d hphf p hg s hnone, fall_of_default hg hd]
      rfl

/-- **Error iff.**  The result is an error exactly when no candidate accepts the input and the enum
    has no default variant; the error is the standard one or the user's function applied to the input. -/
theorem parse_err_iff (d : EnumDef) (hphf : d.usePhf = false) (p : FromStrImpl)
    (hg : genFromStr d = .ok p) (s : Bytes) :
    (parse d s = .ok .errStd ↔ (∀ v ∈ d.candidates, accepts d v s = false) ∧ d.defaults = [] ∧ d.customErr = false) ∧
    (∀ a, parse d s = .ok (.errCustom a) ↔
      (∀ v ∈ d.candidates, accepts d v s = false) ∧ d.defaults = [] ∧ d.customErr = true ∧ a = s) := by
  rcases parse_cases d hphf p hg s with ⟨v, hv, ha, hp⟩ | ⟨hn, ⟨h0, hp⟩ | ⟨v, hd, hp⟩⟩
  · have hA : ¬ ∀ v ∈ d.candidates, accepts d v s = false := fun h => by
      rw [h v hv] at ha
      cases ha
    simp [hp, hA]
  · cases hc : d.customErr
    · simpa [hp, hc, h0] using hn
    · simpa [hp, hc, h0, and_iff_right hn] using fun a => eq_comm
  · simp [hp, hd]

/-- **A disabled variant is never produced** (variant identifiers are unique, as rustc demands). -/
theorem parse_never_disabled (d : EnumDef) (hphf : d.usePhf = false) (p : FromStrImpl)
    (hg : genFromStr d = .ok p) (hid : (d.variants.map (·.ident)).Nodup)
    (s : Bytes) (k : Bytes) (pl : List FieldInit)
    (h : parse d s = .ok (.ok k pl)) : ∀ v ∈ d.variants, v.ident = k → v.disabled = false := by
  -- the produced identifier belongs to an enabled variant: a candidate or the default one
  have hen : ∃ w ∈ d.variants, w.disabled = false ∧ w.ident = k := by
    rcases parse_cases d hphf p hg s with ⟨v, hv, _, hp⟩ | ⟨_, ⟨_, hp⟩ | ⟨v, hd, hp⟩⟩
    · cases hp.symm.trans h
      exact ⟨v, (mem_candidates.1 hv).1, (mem_candidates.1 hv).2.1, rfl⟩
    · rw [hp] at h
      split at h <;> cases h
    · cases hp.symm.trans h
      have hv := mem_defaults.1 (hd ▸ List.mem_singleton_self v)
      exact ⟨v, hv.1, hv.2.1, rfl⟩
  obtain ⟨w, hw, hwd, hwk⟩ := hen
  intro v hv hvk
  rw [inj_of_nodup_map (·.ident) d.variants hid v hv w hw (hvk.trans hwk.symm)]
  exact hwd

/- `TryFrom<&str>` is generated as a call to `FromStr::from_str` (from_string.rs:214-227); the model
   has a single `parse`, and the correspondence compares both entry points on every input. -/

theorem ci_flag (d : EnumDef) (v : Variant) :
    d.ciOf v = (match v.ci with | some b => b | none => d.ci) := rfl

/-- the spellings of a written variant: every `serialize` literal in source order, then the `to_string` literal; the
    re-cased identifier only when neither is written -/
theorem source_spellings (s : RawSource) (r : RawVariant) :
    serializations s.declared.style r.declared =
      (let a := serializesOf r.attrs.flatten ++ (lastOf VItem.toStr? r.attrs.flatten).toList
       if a.isEmpty then [convertCase s.declared.style r.ident] else a) := rfl

/-- **C01 at source level** (first-match form, no overlap hypothesis): on the enum read off a source, without `use_phf`, parsing
    returns the first written variant - enabled, not `default` - one of whose spellings the input is -/
theorem source_parse (s : RawSource) (hphf : s.declared.usePhf = false) (p : FromStrImpl)
    (hg : genFromStr s.declared = .ok p) (inp : Bytes) :
    parse s.declared inp = .ok (match s.declared.candidates.find? (fun v => accepts s.declared v inp) with
                                | some v => .ok v.ident (payloadOf v)
                                | none => p.fall.eval inp) :=
  parse_first_match s.declared hphf p hg inp

/-! ### Non-vacuity: a concrete definition satisfying the hypotheses -/

def exampleEnum : EnumDef :=
  { name := [69], style := some .snake, ci := true,
    variants := [
      { ident := [82, 101, 100] },                                            -- Red (ci via enum)
      { ident := [66, 108], ci := some false, serialize := [[98], [66, 66]] }, -- Bl, serialize "b","BB"
      { ident := [79], isDefault := true, fields := .tuple 1 },               -- O(String) default
      { ident := [88], disabled := true } ] }

example : noOverlapB exampleEnum = true := by decide
example : (exampleEnum.variants.map (·.ident)).Nodup := by decide
example : ∃ p, genFromStr exampleEnum = .ok p := ⟨_, rfl⟩
example : parse exampleEnum [82, 69, 68] = .ok (.ok [82, 101, 100] []) := by rfl
example : parse exampleEnum [120] = .ok (.ok [79] [.captured [120]]) := by rfl

end Strum
