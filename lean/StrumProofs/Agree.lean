import StrumProofs.Source
import StrumProofs.DiscHeader
import StrumModel.Validate
/-
Two models of the same loops must agree.  `StrumModel/Validate.lean` (C20) decides "does `get_type_properties` /
`get_variant_properties` fail" by COUNTING item kinds; `StrumModel/Collect.lean` / `DiscHeader.lean` transcribe the loops
with their occurrence state.  Here: the kind-erasure of the items as written, and the proof that the two verdicts
coincide - so C20's reject rules R4 / R8 are statements about the very attribute lists every other property's theorems
start from.
-/
namespace Strum

def PropVal.litKind : PropVal → LitKind
  | .str _ => .str | .int _ => .int | .bool _ => .bool

def VItem.toVarAttr : VItem → VarAttr
  | .message _ => .message
  | .detailed _ => .detailed
  | .serialize _ => .serialize
  | .toStr _ => .toString
  | .transparent => .transparent
  | .disabled => .disabled
  | .default => .default
  | .defaultWith _ => .defaultWith
  | .ci _ => .ci
  | .props ps => .props (ps.map (fun p => p.2.litKind))

def EItem.toEnumAttr : EItem → EnumAttr
  | .serializeAll s => .serializeAll (parseStyle s).isSome
  | .ci => .ci
  | .pfx _ => .pfx
  | .usePhf => .usePhf
  | .parseErrTy => .parseErrTy
  | .parseErrFn => .parseErrFn
  | .constIntoStr => .constIntoStr
  | .cratePath => .crate

def DItem.toDiscAttr : DItem → DiscAttr
  | .derive _ => .derive
  | .name _ => .name
  | .vis _ => .vis
  | .doc _ => .doc
  | .other _ => .other

/-- Validate's counting test - some element whose kind occurs twice - against the loops' condition -/
theorem exists_two_le_countP_iff {α κ : Type} [BEq κ] [LawfulBEq κ] (key : α → Option κ) (l : List α) :
    (∃ a ∈ l, ∃ k, key a = some k ∧ 2 ≤ countP (fun x => key x == some k) l) ↔ ¬ (l.filterMap key).Nodup := by
  simp only [List.nodup_iff_count, List.count_filterMap, countP, ← List.countP_eq_length_filter, Classical.not_forall,
    Nat.not_le]
  refine ⟨fun ⟨_, _, k, _, h⟩ => ⟨k, h⟩, fun ⟨k, h⟩ => ?_⟩
  obtain ⟨a, ha, hk⟩ := List.countP_pos_iff.1 (Nat.lt_trans Nat.one_pos h)
  exact ⟨a, ha, k, eq_of_beq hk, h⟩

theorem singleUse_iff_kind (a : VItem) : a.toVarAttr.singleUse = a.kind?.isSome := by
  cases a <;> rfl

theorem sameKind_iff_kind (a x : VItem) (k : VKind) (ha : a.kind? = some k) :
    VarAttr.sameKind a.toVarAttr x.toVarAttr = (x.kind? == some k) := by
  cases a <;> cases ha <;> cases x <;> rfl

/-- **the counting verdict = the loop's verdict** for one variant: Validate's `varAttrErr` on the erased items holds iff a
    single-use kind occurs twice, i.e. (by `collectVariant_error_iff`) iff `get_variant_properties`' loop fails -/
theorem varAttrErr_iff (its : List VItem) :
    varAttrErr (its.map VItem.toVarAttr) = true ↔ ¬ (kindsOf its).Nodup := by
  rw [kindsOf, ← exists_two_le_countP_iff]
  simp only [varAttrErr, List.any_map, List.any_eq_true, Function.comp_apply, Bool.and_eq_true, decide_eq_true_eq,
    singleUse_iff_kind, Option.isSome_iff_exists, countP, List.filter_map, List.length_map]
  have h : ∀ (a : VItem) k, a.kind? = some k → VarAttr.sameKind a.toVarAttr ∘ VItem.toVarAttr = fun x => x.kind? == some k :=
    fun a k hk => funext (sameKind_iff_kind a · k hk)
  exact ⟨fun ⟨a, ha, ⟨k, hk⟩, hc⟩ => ⟨a, ha, k, hk, h a k hk ▸ hc⟩,
    fun ⟨a, ha, k, hk, hc⟩ => ⟨a, ha, ⟨k, hk⟩, h a k hk ▸ hc⟩⟩

theorem varAttrErr_iff_collect (r : RawVariant) :
    varAttrErr (r.attrs.flatten.map VItem.toVarAttr) = true ↔ ∃ k, collectVariant r = .error k := by
  rw [varAttrErr_iff, collectVariant_error_iff]

theorem esameKind_iff_kind (a x : EItem) : EnumAttr.sameKind a.toEnumAttr x.toEnumAttr = (x.kind == a.kind) := by
  cases a <;> cases x <;> rfl

theorem badStyle_iff (its : List EItem) :
    (its.map EItem.toEnumAttr).any (fun a => a == .serializeAll false) = true ↔ its.all styleOk = false := by
  have h : ∀ x : EItem, (x.toEnumAttr == EnumAttr.serializeAll false) = !styleOk x := fun x => by
    cases x <;> first | rfl | (simp only [EItem.toEnumAttr, styleOk]; cases (parseStyle _).isSome <;> rfl)
  simp [h]

theorem dupKind_iff (its : List EItem) :
    (its.map EItem.toEnumAttr).any (fun a => decide (2 ≤ countP (EnumAttr.sameKind a) (its.map EItem.toEnumAttr))) = true ↔
      ¬ (ekindsOf its).Nodup := by
  rw [ekindsOf, ← List.filterMap_eq_map (f := EItem.kind), ← exists_two_le_countP_iff]
  simp [countP, List.filter_map, Function.comp_def, esameKind_iff_kind]

theorem discCount {β : Type} (c : DiscAttr) (g : DItem → Option β) (h : ∀ a : DItem, (a.toDiscAttr == c) = (g a).isSome)
    (its : List DItem) : countP (· == c) (its.map DItem.toDiscAttr) = (its.filterMap g).length := by
  rw [countP, List.filter_map, List.length_map, List.length_filterMap_eq_countP, List.countP_eq_length_filter]
  exact congrArg (fun p => (its.filter p).length) (funext h)

/-- the item (C20's input) that a source as written erases to -/
def RawSource.toItem (s : RawSource) (dattrs : List (List DItem)) (lifetimes : Nat) (fieldDw : List (List Nat)) : RawItem :=
  { kind := .enum, lifetimes := lifetimes,
    enumAttrs := s.hdr.attrs.flatten.map EItem.toEnumAttr,
    discAttrs := dattrs.flatten.map DItem.toDiscAttr,
    varAttrs := s.variants.map (fun r => r.attrs.flatten.map VItem.toVarAttr),
    fieldDw := fieldDw, d := s.declared }

/-- **`typeErr` (C20: R4 enum level, R8) holds iff `get_type_properties`' two loops fail**: the `strum` loop (`collectEnum`)
    or the `strum_discriminants` loop (`collectDisc`) -/
theorem typeErr_iff_collect (s : RawSource) (dattrs : List (List DItem)) (lt : Nat) (fdw : List (List Nat)) :
    typeErr (s.toItem dattrs lt fdw) = true ↔
      ((∃ e, collectEnum s.hdr [] = .error e) ∨ (∃ k, collectDisc dattrs = .error k)) := by
  rw [collectEnum_error_iff, collectDisc_error_iff, Bool.eq_false_iff (b := discCollectable _), ne_eq,
    discCollectable_iff, Classical.not_and_iff_not_or_not, Nat.not_le, Nat.not_le]
  unfold typeErr RawSource.toItem
  simp only [Bool.or_eq_true, decide_eq_true_eq, or_assoc]
  rw [badStyle_iff, dupKind_iff, discCount .name DItem.name? fun a => by cases a <;> rfl,
    discCount .vis DItem.vis? fun a => by cases a <;> rfl]
  -- the two sides differ in `2 ≤ n` against `1 < n`
  rfl

/-- **`anyVarAttrErr` (C20: R4 variant level) holds iff `get_variant_properties` fails on some written variant** -/
theorem anyVarAttrErr_iff_collect (s : RawSource) (dattrs : List (List DItem)) (lt : Nat) (fdw : List (List Nat)) :
    anyVarAttrErr (s.toItem dattrs lt fdw) = true ↔ ∃ r ∈ s.variants, ∃ k, collectVariant r = .error k := by
  unfold anyVarAttrErr RawSource.toItem
  simp only [List.any_map, List.any_eq_true, Function.comp_apply]
  constructor
  · rintro ⟨r, hr, h⟩; exact ⟨r, hr, (varAttrErr_iff_collect r).mp h⟩
  · rintro ⟨r, hr, h⟩; exact ⟨r, hr, (varAttrErr_iff_collect r).mpr h⟩

/-- **C20 on the source as written**: a derive that reads both the type and the variant properties rejects every source
    that `collectAll` rejects -/
theorem validate_rejects_uncollectable (dv : Derive) (s : RawSource) (dattrs : List (List DItem)) (lt : Nat)
    (fdw : List (List Nat)) (ht : dv.readsTypeProps = true) (hv : dv.readsVariantProps = true)
    (h : s.collectable = false) : validate dv (s.toItem dattrs lt fdw) = .reject := by
  unfold validate
  simp only [show ((s.toItem dattrs lt fdw).kind != ItemKind.enum) = false from rfl, ht, hv, Bool.true_and]
  cases hte : typeErr (s.toItem dattrs lt fdw) with
  | true => rfl
  | false =>
    -- the header collects, so some variant does not
    have hhdr := Classical.not_not.1 fun hc =>
      Bool.eq_false_iff.1 hte ((typeErr_iff_collect s dattrs lt fdw).2 (.inl ((collectEnum_spec s.hdr []).2 hc)))
    have hvar : anyVarAttrErr (s.toItem dattrs lt fdw) = true := by
      rw [anyVarAttrErr_iff_collect]
      refine Classical.byContradiction fun hno => Bool.eq_false_iff.1 h ((collectable_iff s).2 ⟨hhdr.1, hhdr.2, fun r hr => ?_⟩)
      exact Classical.not_not.1 fun hn => hno ⟨r, hr, (collectVariant_spec r).2 hn⟩
    simp [hvar]

/-! ### non-vacuity -/

example : validate .display (({ hdr := { attrs := [[.ci, .pfx [112]], [.ci]] } } : RawSource).toItem [] 0 []) = .reject := by decide
example : (({ hdr := {}, variants := [{ ident := [65], attrs := [[.toStr [97], .serialize [98]], [.toStr [99]]] }] } : RawSource).collectable) = false := by
  decide
example : validate .enumMessage (({ hdr := {}, variants := [{ ident := [65], attrs := [[.toStr [97], .serialize [98]], [.toStr [99]]] }] } : RawSource).toItem [] 0 [])
    = .reject := validate_rejects_uncollectable _ _ _ _ _ rfl rfl (by decide)

end Strum
