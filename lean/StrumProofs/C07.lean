import StrumModel.Names
import StrumProofs.Lemmas.Heck
/-
C07 — each serialize_all style renames identifiers to exactly that documented case.

`heckWords_eq_specWords` (Lemmas/Heck.lean) replaces heck's scanning state machine by the declarative
boundary rule `boundaryBefore`: split at non-alphanumerics (underscores), and inside a run put a boundary
before an upper-case character whose previous letter is lower-case (lower-to-upper) or whose previous
letter is upper-case while the next character is lower-case (acronym).  Everything below is stated in
terms of `specWords`.
-/
namespace Strum

/-- the documented (separator, casing) table -/
def styleSpec (st : CaseStyle) (id : Bytes) : Bytes :=
  let ws := specWords id
  match st with
  | .snake => intercalateBytes [95] (ws.map lowerAll)
  | .kebab => intercalateBytes [45] (ws.map lowerAll)
  | .shoutySnake => intercalateBytes [95] (ws.map upperAll)
  | .screamingKebab => intercalateBytes [45] (ws.map upperAll)
  | .title => intercalateBytes [32] (ws.map capitalize)
  | .train => intercalateBytes [45] (ws.map capitalize)
  | .pascal => (ws.map capitalize).flatten
  | .camel | .mixed =>
    match ws with
    | [] => []
    | w :: rest => lowerAll w ++ (rest.map capitalize).flatten
  | .lower => lowerAll id
  | .upper => upperAll id

/-! ### the words: non-empty, and together the identifier's letters and digits in order -/

theorem specGo_partition (p : Option Nat) (cur rest : Bytes) (h : cur ≠ [] ∨ p = none) :
    (specGo p cur rest).flatten = cur ++ rest ∧ [] ∉ specGo p cur rest := by
  induction rest generalizing p cur with
  | nil => cases cur <;> simp [specGo]
  | cons c r ih =>
    rw [specGo_cons]
    split
    next hb =>
      -- a boundary needs a previous letter, so `cur` is not empty
      have hc : cur ≠ [] := h.resolve_right (by rintro rfl; simp [boundaryBefore] at hb)
      simpa [hc.symm] using ih (nextPrev p c) [c] (.inl (by simp))
    next => simpa using ih (nextPrev p c) (cur ++ [c]) (.inl (by simp))

theorem specWords_nonempty (id : Bytes) : ∀ w ∈ specWords id, w ≠ [] := by
  intro w hw
  obtain ⟨seg, _, hws⟩ := List.mem_flatMap.1 hw
  exact ne_of_mem_of_not_mem hws (specGo_partition none [] seg (.inr rfl)).2

theorem splitNonAlnum_flatten (cur s : Bytes) : (splitNonAlnum cur s).flatten = cur ++ s.filter isAlnum := by
  induction s generalizing cur with
  | nil => simp [splitNonAlnum]
  | cons c cs ih =>
    rw [splitNonAlnum]
    split <;> simp [*]

/-- the words, concatenated, are exactly the identifier's alphanumeric characters in order -/
theorem specWords_flatten (id : Bytes) : (specWords id).flatten = id.filter isAlnum := by
  have hseg (seg : Bytes) : (specGo none [] seg).flatten = seg := (specGo_partition none [] seg (.inr rfl)).1
  have h := splitNonAlnum_flatten [] id
  simp only [specWords, List.flatMap_def, List.flatten_flatten, List.map_map, Function.comp_def, hseg, List.nil_append,
    List.map_id'] at h ⊢
  exact h

theorem specWords_alnum (id : Bytes) : ∀ w ∈ specWords id, ∀ c ∈ w, isAlnum c = true := by
  intro w hw c hc
  have h : c ∈ (specWords id).flatten := List.mem_flatten.2 ⟨w, hw, hc⟩
  rw [specWords_flatten] at h
  exact (List.mem_filter.1 h).2

/-! ### `convert_case` computes the table -/

theorem upperAll_intercalate (sep : Bytes) (ws : List Bytes) :
    upperAll (intercalateBytes sep ws) = intercalateBytes (upperAll sep) (ws.map upperAll) := by
  induction ws with
  | nil => rfl
  | cons w ws ih =>
    cases ws with
    | nil => rfl
    | cons w2 ws2 =>
      simp only [intercalateBytes, List.map_cons, upperAll, List.map_append] at ih ⊢
      rw [ih]

theorem upperAll_lowerAll (w : Bytes) : upperAll (lowerAll w) = upperAll w := by
  simp [upperAll, lowerAll, asciiUpper_asciiLower]

theorem capitalize_lower_first (w : Bytes) :
    (match capitalize w with | [] => [] | c :: cs => asciiLower c :: cs) = lowerAll w := by
  cases w with
  | nil => rfl
  | cons c cs => simp [capitalize, lowerAll, asciiLower_upper]

/-- **Every style, every identifier**: `convert_case` computes the documented renaming. -/
theorem convert_case_spec (st : CaseStyle) (id : Bytes) : convertCase (some st) id = styleSpec st id := by
  cases st <;>
    simp only [convertCase, styleSpec, toSnake, toKebab, toShoutySnake, toTitle, toTrain, toUpperCamel, toLowerCamel,
      heckWords_eq_specWords]
  case camel =>
    -- lower-casing the first character of the PascalCase form: the first word is not empty
    have hne := specWords_nonempty id
    cases hw : specWords id with
    | nil => rfl
    | cons w rest =>
      cases w with
      | nil => exact absurd rfl (hne [] (hw ▸ List.mem_cons_self ..))
      | cons c cs => simp [capitalize, lowerAll, asciiLower_upper]
  case screamingKebab =>
    simp only [upperAll_intercalate, List.map_map, Function.comp_def, upperAll_lowerAll]
    rfl
  case mixed => cases specWords id <;> rfl

/-- `camelCase` and `mixed_case` are the same renaming -/
theorem camel_eq_mixed (id : Bytes) : convertCase (some .camel) id = convertCase (some .mixed) id := by
  rw [convert_case_spec, convert_case_spec]; rfl

/-- `lowercase` / `UPPERCASE` only change the letter case of the identifier (no word splitting) -/
theorem lower_upper_only_case (id : Bytes) :
    convertCase (some .lower) id = id.map asciiLower ∧ convertCase (some .upper) id = id.map asciiUpper ∧
    (convertCase (some .lower) id).length = id.length ∧ (convertCase (some .upper) id).length = id.length := by
  simp [convertCase, lowerAll, upperAll]

/-- without `serialize_all` the identifier is used verbatim -/
theorem no_style_verbatim (id : Bytes) : convertCase none id = id := rfl

/-- **Variants with an explicit `serialize`/`to_string` are never re-cased** -/
theorem explicit_never_recased (v : Variant) (h : v.toStr.isSome = true ∨ v.serialize ≠ [])
    (st : Option CaseStyle) (pfx : Option Bytes) :
    preferredName st pfx v = preferredName none pfx v ∧ serializations st v = serializations none v := by
  unfold preferredName serializations
  cases ht : v.toStr with
  | some t => simp
  | none =>
    cases hs : v.serialize with
    | nil => simp [ht, hs] at h
    | cons a as => simp [maxByKeyLast]

/-- the boundary rule, spelled out on the three-character window -/
theorem boundary_rule (p : Option Nat) (c : Nat) (n : Option Nat) :
    boundaryBefore p c n = true ↔
      isUpper c = true ∧ ∃ q, p = some q ∧ (isLower q = true ∨ (isUpper q = true ∧ ∃ x, n = some x ∧ isLower x = true)) := by
  unfold boundaryBefore
  cases p with
  | none => simp
  | some q =>
    cases n with
    | none => simp
    | some x => simp

/-! examples (also regression tests for the model) -/
example : specWords [72, 84, 84, 80, 83, 101, 114, 118, 101, 114] = [[72, 84, 84, 80], [83, 101, 114, 118, 101, 114]] := by decide
example : convertCase (some .snake) [70, 111, 111, 50, 66, 97, 114] = [102, 111, 111, 50, 95, 98, 97, 114] := by decide
example : convertCase (some .camel) [116, 101, 115, 116, 95, 109, 101] = [116, 101, 115, 116, 77, 101] := by decide

/-- the documented style strings and the accepted legacy aliases (case_style.rs:58-81), all 16 rows -/
def styleTable : List (String × CaseStyle) :=
  [("camelCase", .camel), ("PascalCase", .pascal), ("kebab-case", .kebab), ("snake_case", .snake),
   ("SCREAMING_SNAKE_CASE", .shoutySnake), ("SCREAMING-KEBAB-CASE", .screamingKebab), ("lowercase", .lower),
   ("UPPERCASE", .upper), ("title_case", .title), ("mixed_case", .mixed), ("Train-Case", .train),
   ("camel_case", .pascal), ("snek_case", .snake), ("kebab_case", .kebab), ("shouty_snake_case", .shoutySnake),
   ("shouty_snek_case", .shoutySnake)]

theorem style_table : ∀ p ∈ styleTable, parseStyle p.1 = some p.2 := by decide

/-! ### the renaming keeps the identifier's letters and digits, in order, up to case -/

theorem asciiLower_lower (b : Nat) : asciiLower (asciiLower b) = asciiLower b := asciiLower_idem b

theorem lowerAll_fold (w : Bytes) : (lowerAll w).map asciiLower = w.map asciiLower :=
  (eqIgnoreAsciiCase_iff_map _ _).1 (eqIgnoreAsciiCase_lowerAll w)
theorem upperAll_fold (w : Bytes) : (upperAll w).map asciiLower = w.map asciiLower :=
  (eqIgnoreAsciiCase_iff_map _ _).1 (eqIgnoreAsciiCase_upperAll w)
theorem capitalize_fold (w : Bytes) : (capitalize w).map asciiLower = w.map asciiLower := by
  cases w with
  | nil => rfl
  | cons c cs => simp [capitalize, lowerAll, asciiLower_upper, asciiLower_idem]

/-- **PascalCase keeps every letter and digit of the identifier, in order, only changing case**
    (the separated styles additionally insert their separator between words, see `convert_case_spec`). -/
theorem pascal_letters_preserved (id : Bytes) :
    (convertCase (some .pascal) id).map asciiLower = (id.filter isAlnum).map asciiLower := by
  rw [convert_case_spec, ← specWords_flatten]
  simp only [styleSpec, List.map_flatten, List.map_map, Function.comp_def, capitalize_fold]

theorem intercalate_fold (sep : Bytes) (ws : List Bytes) :
    (intercalateBytes sep ws).filter (fun b => !sep.contains b) = (ws.flatten).filter (fun b => !sep.contains b) := by
  induction ws with
  | nil => rfl
  | cons w ws ih =>
    cases ws with
    | nil => simp [intercalateBytes]
    | cons w2 ws2 =>
      simp only [intercalateBytes, List.filter_append, List.flatten_cons] at ih ⊢
      rw [ih]
      simp

/-- **snake_case: removing the separators gives back the identifier's letters and digits, lower-cased** -/
theorem snake_letters_preserved (id : Bytes) :
    (convertCase (some .snake) id).filter (fun b => !([95] : Bytes).contains b) =
      ((specWords id).map lowerAll).flatten.filter (fun b => !([95] : Bytes).contains b) := by
  rw [convert_case_spec]
  exact intercalate_fold [95] _

/-! ### separators are clean: splitting the renamed identifier at the separator gives back the cased words -/

def splitSep (sep : Nat) : Bytes → Bytes → List Bytes
  | cur, [] => [cur]
  | cur, c :: cs => if c = sep then cur :: splitSep sep [] cs else splitSep sep (cur ++ [c]) cs

theorem splitSep_prefix (sep : Nat) (w : Bytes) (hw : ∀ c ∈ w, c ≠ sep) (cur rest : Bytes) :
    splitSep sep cur (w ++ rest) = splitSep sep (cur ++ w) rest := by
  induction w generalizing cur with
  | nil => rw [List.append_nil]; rfl
  | cons x xs ih =>
    rw [List.cons_append, splitSep, if_neg (hw x List.mem_cons_self), ih (fun c hc => hw c (List.mem_cons_of_mem _ hc)),
      List.append_assoc]
    rfl

/-- joining with a separator that occurs in no word, then splitting at it, is the identity on non-empty word lists -/
theorem splitSep_intercalate (sep : Nat) (ws : List Bytes) (hne : ws ≠ []) (hw : ∀ w ∈ ws, ∀ c ∈ w, c ≠ sep) :
    splitSep sep [] (intercalateBytes [sep] ws) = ws := by
  induction ws with
  | nil => exact absurd rfl hne
  | cons w rest ih =>
    have h : ∀ l, splitSep sep [] (w ++ l) = splitSep sep w l := splitSep_prefix sep w (hw w List.mem_cons_self) []
    cases rest with
    | nil => simpa [intercalateBytes, splitSep] using h []
    | cons w2 rest2 =>
      show splitSep sep [] (w ++ [sep] ++ intercalateBytes [sep] (w2 :: rest2)) = _
      rw [List.append_assoc, h, List.singleton_append, splitSep, if_pos rfl,
        ih (List.cons_ne_nil _ _) (fun u hu => hw u (List.mem_cons_of_mem _ hu))]

/-- **snake_case has no leading, trailing or doubled `_`**: splitting at `_` returns exactly the lower-cased
    words, each of them non-empty. -/
theorem snake_separators_clean (id : Bytes) (hne : specWords id ≠ []) :
    splitSep 95 [] (convertCase (some .snake) id) = (specWords id).map lowerAll ∧
    ∀ w ∈ (specWords id).map lowerAll, w ≠ [] := by
  rw [convert_case_spec]
  refine ⟨splitSep_intercalate 95 _ (by simpa using hne) ?_, ?_⟩
  · -- a lower-cased letter or digit is a letter or digit, and `_` is neither
    intro w hw c hc hc95
    obtain ⟨u, hu, rfl⟩ := List.mem_map.1 hw
    obtain ⟨b, hb, rfl⟩ := List.mem_map.1 hc
    have h := asciiLower_alnum (specWords_alnum id u hu b hb)
    rw [hc95] at h
    cases h
  · intro w hw
    obtain ⟨u, hu, rfl⟩ := List.mem_map.1 hw
    exact mt List.map_eq_nil_iff.1 (specWords_nonempty id u hu)

end Strum
