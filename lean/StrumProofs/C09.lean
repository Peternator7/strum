import StrumProofs.C06
import StrumProofs.Agree
/-
C09 — EnumDiscriminants mirrors the enum: same variants, order, repr, discriminants.
Model: `genDiscriminants`, `discFromArms`, `discOf` (StrumModel/Repr.lean) mirroring enum_discriminants.rs.
-/
namespace Strum

def visOf (d : EnumDef) : DiscVis := if d.discVis = 0 then .inherit else if d.discVis = 1 then .pub else .restricted

/-- **Same names, same order, same explicit discriminant values, same `#[repr]`.** -/
theorem disc_variants (d : EnumDef) (n : Option Bytes) (vis : DiscVis) :
    (genDiscriminants d n vis).variants.map (·.1) = d.variants.map (·.ident) ∧
    (genDiscriminants d n vis).variants.map (·.2) = d.variants.map (·.discr) ∧
    (genDiscriminants d n vis).asEnum.reprHints = d.reprHints ∧
    (genDiscriminants d n vis).asEnum.repr = d.repr ∧
    (genDiscriminants d n vis).variants.length = d.variants.length := by
  have hh : (genDiscriminants d n vis).asEnum.reprHints = d.reprHints := by
    unfold genDiscriminants DiscEnum.asEnum EnumDef.reprHints enumRepr
    cases d.reprAttrs
    · rfl
    · exact List.flatten_singleton
  exact ⟨List.map_map, List.map_map, hh, congrArg intHint hh, List.length_map _⟩

/-- the generated enum carries a `#[repr(..)]` attribute iff the source enum has one, holding the hints of ALL of them
    in source order (`#[repr(u8)] #[repr(align(4))]` is mirrored as `#[repr(u8, align(4))]`) -/
theorem disc_repr_attr (d : EnumDef) (n : Option Bytes) (vis : DiscVis) :
    (genDiscriminants d n vis).repr = if d.reprAttrs = [] then none else some d.reprHints := by
  unfold genDiscriminants enumRepr EnumDef.reprHints
  cases d.reprAttrs <;> rfl

/-- F9 regression witness: the pinned revision copied only the last attribute: `#[repr(u8)] #[repr(align(4))]` was
    mirrored as `#[repr(align(4))]`, an enum whose discriminant type is no longer `u8` -/
theorem pinned_disc_repr_wrong :
    enumReprPinned { reprAttrs := [[.int .u8], [.align 4]] } = some [.align 4] ∧
    intHint [ReprHint.align 4] = none ∧
    (EnumDef.repr { reprAttrs := [[.int .u8], [.align 4]] }) = some .u8 := by decide

/-- the discriminant rule only looks at the explicit values -/
theorem discrFrom_congr (f : Variant → Variant) (hf : ∀ v, (f v).discr = v.discr) (prev : Option Int)
    (vs : List Variant) : discrFrom prev (vs.map f) = discrFrom prev vs := by
  induction vs generalizing prev with
  | nil => rfl
  | cons v vs ih => simp [discrFrom, hf, ih]

/-- **Equal integer values.**  rustc numbers the generated enum exactly as it numbers the source enum:
    `EDiscriminants::V as R == (E::V{..} discriminant)` for every variant. -/
theorem disc_values (d : EnumDef) (n : Option Bytes) (vis : DiscVis) :
    rustcDiscr (genDiscriminants d n vis).asEnum = rustcDiscr d := by
  unfold rustcDiscr DiscEnum.asEnum genDiscriminants
  simp only [List.map_map]
  refine discrFrom_congr _ ?_ none d.variants
  exact fun _ => rfl

/-- **`From<E>`, `From<&E>` and `IntoDiscriminant::discriminant` return the variant with `e`'s variant
    name** (one shared match body; `discriminant` delegates to `From<&Self>`). -/
theorem disc_from (d : EnumDef) (v : Variant) (hv : v ∈ d.variants) : discOf d v.ident = some v.ident := by
  unfold discOf
  cases h : (discFromArms d).find? (fun p => p.1 == v.ident) with
  | none => exact absurd (List.find?_eq_none.1 h (v.ident, v.ident) (List.mem_map_of_mem hv)) (by simp)
  | some p =>
    -- whichever arm is found has `v`'s name as its pattern, and its body is its pattern
    obtain ⟨w, _, rfl⟩ := List.mem_map.1 (List.mem_of_find?_eq_some h)
    have hp := List.find?_some h
    exact congrArg some (eq_of_beq hp)

/-- `IntoDiscriminant` is implemented iff the visibility is not overridden or is `pub` -/
theorem into_discriminant_iff (d : EnumDef) (n : Option Bytes) (vis : DiscVis) :
    (genDiscriminants d n vis).hasIntoDiscriminant = true ↔ vis ≠ .restricted := by
  cases vis <;> simp [genDiscriminants]

/-- the generated type's name: the override, else `<Enum>Discriminants` -/
theorem disc_name (d : EnumDef) (vis : DiscVis) :
    (genDiscriminants d none vis).name = d.name ++ "Discriminants".toList.map (·.toNat) ∧
    ∀ n, (genDiscriminants d (some n) vis).name = n := by
  -- a literal is `String.ofList` of its characters by definition; decoding its bytes by evaluation is slow to check
  rw [show "Discriminants" = String.ofList ['D', 'i', 's', 'c', 'r', 'i', 'm', 'i', 'n', 'a', 'n', 't', 's'] from rfl,
    String.toList_ofList]
  exact ⟨rfl, fun _ => rfl⟩

/-- hence: converting any value and casting to the integer type gives the value's own discriminant -/
theorem disc_value_of_variant (d : EnumDef) (n : Option Bytes) (vis : DiscVis) (i : Nat) (hi : i < d.variants.length) :
    discOf d d.variants[i].ident = some d.variants[i].ident ∧
    (rustcDiscr (genDiscriminants d n vis).asEnum)[i]? = (rustcDiscr d)[i]? :=
  ⟨disc_from d _ (List.getElem_mem _), by rw [disc_values]⟩

/-! non-vacuity -/
example : (genDiscriminants { name := [69], variants := [{ ident := [65], discr := some 5 }, { ident := [66], fields := .tuple 2 }] } none .inherit).variants
    = [([65], some 5), ([66], none)] := by decide
example : rustcDiscr (genDiscriminants { name := [69], variants := [{ ident := [65], discr := some 5 }, { ident := [66], fields := .tuple 2 }] } none .inherit).asEnum = [5, 6] := by decide

end Strum
