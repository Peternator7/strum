import StrumModel.Repr
import StrumProofs.Lemmas.Lookup
/-
C06 — from_repr(d) is Some(V) iff d is the discriminant rustc gives enabled variant V.

Model: StrumModel/Repr.lean.  `rustcDiscr` is the reference's rule over ALL declared variants (validated
against `v as R` by the correspondence); `reprConstsFrom`/`reprArms`/`fromRepr` mirror from_repr.rs after
the F2 repair.  Discriminants are mathematical integers: rustc rejects enums whose discriminants do not
fit the repr type or collide (E0370 / E0081), and the generated `const K: R = K_prev + 1` items fail to
const-evaluate exactly when rustc's own numbering overflows, so in-range and `Nodup` describe exactly
the enums that compile.
-/
namespace Strum

/-- the generated constants are rustc's discriminants, variant by variant (disabled ones included) -/
theorem reprConsts_eq_zip (prev : Option Int) (vs : List Variant) :
    reprConstsFrom prev vs = vs.zip (discrFrom prev vs) := by
  induction vs generalizing prev with
  | nil => rfl
  | cons v vs ih => simp [reprConstsFrom, discrFrom, ih]

theorem discrFrom_length (prev : Option Int) (vs : List Variant) : (discrFrom prev vs).length = vs.length := by
  induction vs generalizing prev with
  | nil => rfl
  | cons v vs ih => simp [discrFrom, ih]

theorem rustcDiscr_length (d : EnumDef) : (rustcDiscr d).length = d.variants.length := discrFrom_length none _

/-- the rule at the level of the recursion: `prev` is the value before the first variant -/
theorem discrFrom_rule (vs : List Variant) (prev : Option Int) (i : Nat) (hi : i < vs.length) :
    (discrFrom prev vs)[i]'(by rw [discrFrom_length]; exact hi) =
      match vs[i].discr with
      | some e => e
      | none => if h0 : i = 0 then (match prev with | some p => p + 1 | none => 0)
                else (discrFrom prev vs)[i - 1]'(by rw [discrFrom_length]; omega) + 1 := by
  induction vs generalizing prev i with
  | nil => cases hi
  | cons v vs ih =>
    cases i with
    | zero => rfl
    | succ j =>
      -- position `j + 1` of `v :: vs` is position `j` of `vs` started from `v`'s value
      refine (ih _ j (Nat.lt_of_succ_lt_succ hi)).trans ?_
      cases j <;> rfl

/-- the reference's rule, spelled out: explicit value, else previous + 1, first 0 -/
theorem rustcDiscr_rule (d : EnumDef) (i : Nat) (hi : i < d.variants.length) :
    (rustcDiscr d)[i]'(by rw [rustcDiscr_length]; exact hi) =
      match d.variants[i].discr with
      | some e => e
      | none => if h0 : i = 0 then 0 else (rustcDiscr d)[i - 1]'(by rw [rustcDiscr_length]; omega) + 1 :=
  discrFrom_rule d.variants none i hi

/-- `from_repr` looks the value up among the enabled variants, each paired with its rustc discriminant -/
theorem fromRepr_eq (d : EnumDef) (x : Int) :
    fromRepr d x = ((d.variants.zip (rustcDiscr d)).find? (fun p => !p.1.disabled && p.2 == x)).map
      (fun p => (p.1.ident, List.replicate p.1.fields.arity .dflt)) := by
  simp only [fromRepr, reprArms, reprConsts_eq_zip, List.find?_filter, rustcDiscr, Bool.decide_and, Bool.decide_eq_true]

/-- **Soundness.**  `from_repr(x) = Some(V)` only for an enabled variant `V` whose rustc discriminant is `x`,
    with every payload field defaulted. -/
theorem from_repr_sound (d : EnumDef) (x : Int) (r : Bytes × List FieldInit) (h : fromRepr d x = some r) :
    ∃ i, ∃ hi : i < d.variants.length, d.variants[i].disabled = false ∧
      (rustcDiscr d)[i]'(by rw [rustcDiscr_length]; exact hi) = x ∧
      r = (d.variants[i].ident, List.replicate d.variants[i].fields.arity .dflt) := by
  rw [fromRepr_eq, Option.map_eq_some_iff] at h
  obtain ⟨p, hp, rfl⟩ := h
  obtain ⟨i, hi, rfl⟩ := List.getElem_of_mem (List.mem_of_find?_eq_some hp)
  have hq := List.find?_some hp
  simp only [List.getElem_zip, Bool.and_eq_true, Bool.not_eq_true', beq_iff_eq] at hq ⊢
  rw [List.length_zip, rustcDiscr_length, Nat.min_self] at hi
  exact ⟨i, hi, hq.1, hq.2, rfl⟩

/-- **Completeness / round trip.**  For every enabled variant, `from_repr` of its rustc discriminant
    returns that variant (so `E::from_repr(v as R) == Some(v)` for field-less `v`). -/
theorem from_repr_complete (d : EnumDef) (hnd : (rustcDiscr d).Nodup) (i : Nat) (hi : i < d.variants.length)
    (hen : d.variants[i].disabled = false) :
    fromRepr d ((rustcDiscr d)[i]'(by rw [rustcDiscr_length]; exact hi)) =
      some (d.variants[i].ident, List.replicate d.variants[i].fields.arity .dflt) := by
  have hz : ((d.variants.zip (rustcDiscr d)).map (·.2)).Nodup := by
    rw [List.map_snd_zip (by rw [rustcDiscr_length]; exact Nat.le_refl _)]
    exact hnd
  have hi' : i < (d.variants.zip (rustcDiscr d)).length := by
    rw [List.length_zip, rustcDiscr_length, Nat.min_self]
    exact hi
  have hm : (d.variants[i], (rustcDiscr d)[i]'(by rw [rustcDiscr_length]; exact hi)) ∈ d.variants.zip (rustcDiscr d) :=
    List.getElem_zip ▸ List.getElem_mem hi'
  -- the discriminants are the keys of the zipped list, pairwise different by `hnd`
  rw [fromRepr_eq, find?_key (·.2) hz hm fun p => !p.1.disabled, hen]
  rfl

/-- **Every other value gives `None`**: in particular the discriminant of a disabled variant. -/
theorem from_repr_none (d : EnumDef) (x : Int)
    (h : ∀ i, ∀ hi : i < d.variants.length, d.variants[i].disabled = false →
      (rustcDiscr d)[i]'(by rw [rustcDiscr_length]; exact hi) ≠ x) :
    fromRepr d x = none := by
  cases hr : fromRepr d x with
  | none => rfl
  | some r =>
    obtain ⟨i, hi, hen, hk, _⟩ := from_repr_sound d x r hr
    exact absurd hk (h i hi hen)

/-- **iff (the property statement).** -/
theorem from_repr_iff (d : EnumDef) (hnd : (rustcDiscr d).Nodup) (x : Int) (r : Bytes × List FieldInit) :
    fromRepr d x = some r ↔
      ∃ i, ∃ hi : i < d.variants.length, d.variants[i].disabled = false ∧
        (rustcDiscr d)[i]'(by rw [rustcDiscr_length]; exact hi) = x ∧
        r = (d.variants[i].ident, List.replicate d.variants[i].fields.arity .dflt) := by
  constructor
  · exact from_repr_sound d x r
  · rintro ⟨i, hi, hen, rfl, rfl⟩
    exact from_repr_complete d hnd i hi hen

/-- **`from_repr` is callable in const context exactly when no enabled variant carries data.** -/
theorem from_repr_const_iff (d : EnumDef) :
    isConstFn d = true ↔ ∀ v ∈ d.variants, v.disabled = false → v.fields = .unit := by
  simp only [isConstFn, List.all_eq_true, mem_enabled, beq_iff_eq, and_imp]

/-! ### the parameter type: the `#[repr]` integer type wherever it is written, `usize` if none -/

/-- rustc accepts at most one integer type among the repr hints of an enum (E0566 "conflicting representation hints") -/
def ReprWF (d : EnumDef) : Prop := ∀ t t', ReprHint.int t ∈ d.reprHints → ReprHint.int t' ∈ d.reprHints → t = t'

theorem intHint_mem (hs : List ReprHint) (t : ReprTy) (h : intHint hs = some t) : ReprHint.int t ∈ hs := by
  induction hs with
  | nil => cases h
  | cons x hs ih =>
    cases x with
    | int t' =>
      cases h
      exact List.mem_cons_self
    | _ => exact List.mem_cons_of_mem _ (ih h)

/-- the generator keeps the last integer hint, rustc reads the first: the same where rustc accepts -/
theorem scanIntHint_eq : ∀ (hs : List ReprHint) (acc : ReprTy),
    (∀ t t', ReprHint.int t ∈ hs → ReprHint.int t' ∈ hs → t = t') → scanIntHint hs acc = (intHint hs).getD acc := by
  intro hs
  induction hs with
  | nil => intro _ _; rfl
  | cons x hs ih =>
    intro acc h
    have h' : ∀ t t', ReprHint.int t ∈ hs → ReprHint.int t' ∈ hs → t = t' :=
      fun a b ha hb => h a b (List.mem_cons_of_mem _ ha) (List.mem_cons_of_mem _ hb)
    cases x with
    | int t =>
      refine (ih t h').trans ?_
      cases hq : intHint hs with
      | none => rfl
      | some t' => exact h t' t (List.mem_cons_of_mem _ (intHint_mem hs t' hq)) List.mem_cons_self
    | _ => exact ih acc h'

/-- **the parameter type of `from_repr` is the enum's discriminant type**: the integer type named by ANY hint of ANY
    `#[repr(..)]` attribute (`#[repr(C, u8)]`, `#[repr(i8)] #[repr(align(4))]`, ..), `usize` if there is none -/
theorem repr_type (d : EnumDef) (h : ReprWF d) :
    reprType d = (match d.repr with | some t => t | none => .usize) := by
  have hs : reprType d = scanIntHint d.reprHints .usize := by
    unfold reprType enumRepr EnumDef.reprHints
    cases d.reprAttrs <;> rfl
  rw [hs, scanIntHint_eq _ _ h, EnumDef.repr]
  cases intHint d.reprHints <;> rfl

/-! ### F8 / F9 regression witnesses -/
/-- `#[repr(C, u8)] enum E { A, B(u8) }` -/
def f8Enum : EnumDef := { reprAttrs := [[.c, .int .u8]], variants := [{ ident := [65] }, { ident := [66], fields := .tuple 1 }] }
/-- `#[repr(i8)] #[repr(align(4))] enum E { A = -3, B }` -/
def f9Enum : EnumDef := { reprAttrs := [[.int .i8], [.align 4]], variants := [{ ident := [65], discr := some (-3) }, { ident := [66] }] }

/-- pinned generator: `from_repr` takes `usize` although the discriminant type is `u8` / `i8` -/
theorem pinned_repr_type_wrong :
    reprTypePinned f8Enum = .usize ∧ f8Enum.repr = some .u8 ∧ reprTypePinned f9Enum = .usize ∧ f9Enum.repr = some .i8 := by decide

/-- repaired generator -/
example : reprType f8Enum = .u8 ∧ reprType f9Enum = .i8 := by decide
example : ReprWF f8Enum ∧ ReprWF f9Enum := by
  constructor <;> intro t t' h h' <;> simp [f8Enum, f9Enum, EnumDef.reprHints] at h h' <;> simp [h, h']

/-! ### F2 regression witness: `#[repr(u8)] enum R { A, #[strum(disabled)] B, C }` -/
def f2Enum : EnumDef :=
  { reprAttrs := [[.int .u8]], variants := [{ ident := [65] }, { ident := [66], disabled := true }, { ident := [67] }] }

/-- pinned generator: `from_repr(1) == Some(C)` although `C as u8 == 2` -/
theorem pinned_from_repr_wrong : fromReprPinned f2Enum 1 = some ([67], []) ∧ rustcDiscr f2Enum = [0, 1, 2] := by decide

/-- repaired generator -/
example : fromRepr f2Enum 1 = none ∧ fromRepr f2Enum 2 = some ([67], []) := by decide
example : (rustcDiscr f2Enum).Nodup := by decide

end Strum
