import StrumProofs.Lemmas.Iter
import StrumProofs.Lemmas.Lookup
import StrumProofs.Source
/-
C04 — EnumIter yields every enabled variant exactly once, in declaration order.
-/
namespace Strum

theorem foldl_count {α : Type} (p : α → Bool) (l : List α) (acc : Nat) :
    l.foldl (fun acc a => if p a then acc + 1 else acc) acc = acc + (l.filter p).length := by
  induction l generalizing acc with
  | nil => rfl
  | cons a as ih =>
    rw [List.foldl_cons, List.filter_cons, ih]
    cases p a
    · rfl
    · rw [if_pos rfl, if_pos rfl, List.length_cons, Nat.add_assoc, Nat.add_comm 1]

/-- `COUNT` is the number of enabled variants -/
theorem enumCount_eq (d : EnumDef) : enumCount d = d.enabled.length :=
  (foldl_count _ d.variants 0).trans (Nat.zero_add _)

/-- **The item table is the enabled variants, in declaration order, each with every payload field
    `Default::default()`; disabled variants do not occur wherever they are declared.** -/
theorem iter_table (d : EnumDef) :
    iterTable d = (d.variants.filter (fun v => !v.disabled)).map
      (fun v => (v.ident, List.replicate v.fields.arity FieldInit.dflt)) := rfl

theorem iterTable_idents (d : EnumDef) : (iterTable d).map (·.1) = d.enabled.map (·.ident) :=
  List.map_map

theorem iterTable_length (d : EnumDef) : (iterTable d).length = d.enabled.length :=
  List.length_map _

theorem iter_table_no_disabled (d : EnumDef) (hid : (d.variants.map (·.ident)).Nodup)
    (v : Variant) (hv : v ∈ d.variants) (hdis : v.disabled = true) :
    ∀ x ∈ iterTable d, x.1 ≠ v.ident :=
  fun x hx hxv => ident_not_enabled d hid hv hdis (iterTable_idents d ▸ hxv ▸ List.mem_map_of_mem hx)

theorem bound_of_small (N : Nat) (h : N < 2 ^ 32) : 2 * N + 1 < W := by
  rw [W_eq]
  omega

/-- **`iter().collect()` visits positions `0, 1, .., N-1` of the table exactly once, in order.** -/
theorem iter_collect (N : Nat) (hN : 2 * N + 1 < W) : collectFuel N (N + 2) iterInit = List.range N := by
  rw [collectFuel_eq N hN (N + 2) iterInit (iterInv_init N) (by simp [iterAbs_init]), iterAbs_init]

/-- **Iterating from the back yields the exact reverse.** -/
theorem iter_rev (m : Mode) (N : Nat) (hN : 2 * N + 1 < W) :
    collectBackFuel m N (N + 2) iterInit = (List.range N).reverse := by
  rw [collectBackFuel_eq m N hN (N + 2) iterInit (iterInv_init N) (by simp [iterAbs_init]), iterAbs_init]

/-- **The number of items equals `EnumCount::COUNT`.** -/
theorem iter_count (d : EnumDef) (hN : 2 * (iterTable d).length + 1 < W) :
    (collectFuel (iterTable d).length ((iterTable d).length + 2) iterInit).length = enumCount d := by
  rw [iter_collect _ hN, enumCount_eq, List.length_range, iterTable_length]

/-- each enabled variant occurs exactly once among the yielded items (identifiers are unique) -/
theorem iter_table_nodup (d : EnumDef) (hid : (d.variants.map (·.ident)).Nodup) :
    ((iterTable d).map (·.1)).Nodup := by
  rw [iterTable_idents]
  exact enabled_idents_nodup d hid

/-! non-vacuity -/
example : iterTable { variants := [{ ident := [65] }, { ident := [66], disabled := true }, { ident := [67], fields := .tuple 2 }] }
    = [([65], []), ([67], [.dflt, .dflt])] := by decide
example : collectFuel 3 5 iterInit = [0, 1, 2] := by decide

/-! ### at source level (StrumProofs/Source.lean: `collectAll s = .ok d ↔ s.collectable ∧ d = s.declared`) -/

/-- **C04 at source level**: the iterator's item table lists the identifiers of exactly the variants written without a
    `disabled` item, in declaration order -/
theorem source_iter (s : RawSource) :
    (iterTable s.declared).map (·.1) = (s.variants.filter (fun r => !r.isDisabled)).map (·.ident) := by
  rw [iterTable_idents, source_enabled, List.map_map]
  rfl

end Strum
